import ACModel.Proofs.Multi
import ACModel.Proofs.Sort
import ACModel.Props.C07
/-
  C12 — MulticlassCarver equals one-vs-rest BinaryCarvers

  "For a target whose classes sort (as strings) to c0<c1<...<ck, MulticlassCarver creates for each
  class ci (i>=1) and each feature f a column `f_ci` equal to what a BinaryCarver with the same
  parameters fitted on the indicator 1[y=ci] outputs for f, keeping `f_ci` iff that BinaryCarver
  keeps f. The raw feature columns are returned unchanged."

  `Multi.assemble` is the fitted state `MulticlassCarver.fit` builds out of its one-vs-rest
  `BinaryCarver`s (renamed `values_orders` / `input_dtypes`, `features_casting`), `BRes.disc` is one
  of those carvers seen as the `BaseDiscretizer` it is; the theorems compare the `transform` of the
  two.  That the real `BinaryCarver`s inside `MulticlassCarver.fit` are fitted with the same
  parameters on the indicator targets (parameter forwarding) is a fact about two runs of the real
  code, decided by the paired runs of `harness/c12.py`, which also compares the real assembled
  state with `Multi.assemble`.  The created column names identify (feature, class) uniquely only as
  long as class labels contain no underscore (`names_collision`).
-/

namespace C12
open Multi

theorem perm_sortStr (l : List String) : (sortStr l).Perm l := by
  -- `insertStr` is ordered insertion: its two defining equations
  have hins : InsSort.InsertsBy (· ≤ ·) insertStr := ⟨fun _ => rfl, fun _ _ _ => rfl⟩
  induction l with
  | nil => exact .refl _
  | cons x t ih => exact (hins.perm x _).trans (ih.cons x)

theorem carvedClasses_sub (y : List String) (c : String) (h : c ∈ carvedClasses y) : c ∈ y := by
  unfold carvedClasses at h
  have := List.mem_of_mem_tail h
  exact List.mem_eraseDups.1 ((perm_sortStr _).mem_iff.1 this)

theorem indicator_spec (y : List String) (c : String) (i : Nat) (hi : i < y.length) :
    (indicator y c)[i]'(by simpa [indicator] using hi) = (if y[i] = c then 1 else 0) := by
  simp [indicator]

/-- splitting at the *last* underscore is unambiguous when the suffix has none -/
theorem append_sep_inj {α : Type} [DecidableEq α] (x : α) : ∀ (a a' b b' : List α), x ∉ b → x ∉ b' →
    a ++ x :: b = a' ++ x :: b' → a = a' ∧ b = b' := by
  intro a a' b b' hb hb' h
  -- one prefix extends the other by `c`; a non-empty `c` would put `x` into the suffix of the shorter
  have key : ∀ {a a' b b' : List α}, x ∉ b → ∀ c, a' = a ++ c → x :: b = c ++ x :: b' → a = a' ∧ b = b' := by
    intro a a' b b' hb c ha hc
    cases c with
    | nil => exact ⟨by rw [ha, List.append_nil], (List.cons.inj hc).2⟩
    | cons y c => exact absurd ((List.cons.inj hc).2 ▸ List.mem_append_right c List.mem_cons_self) hb
  rcases List.append_eq_append_iff.1 h with ⟨c, ha, hc⟩ | ⟨c, ha, hc⟩
  · exact key hb c ha hc
  · obtain ⟨h1, h2⟩ := key hb' c ha hc
    exact ⟨h1.symm, h2.symm⟩

/-- **Created column names identify (feature, class) uniquely** when class labels contain no
    underscore. -/
theorem appendClass_injective_partial (f f' c c' : String) (hc : '_' ∉ c.toList) (hc' : '_' ∉ c'.toList)
    (h : appendClass f c = appendClass f' c') : f = f' ∧ c = c' := by
  unfold appendClass at h
  have hl := congrArg String.toList h
  simp only [String.toList_append] at hl
  have hu : "_".toList = ['_'] := rfl
  rw [hu] at hl
  simp only [List.append_assoc, List.singleton_append] at hl
  obtain ⟨h1, h2⟩ := append_sep_inj '_' f.toList f'.toList c.toList c'.toList hc hc' hl
  exact ⟨String.toList_injective h1, String.toList_injective h2⟩

/-- the same without the hypothesis on the labels -/
def C12_names_injective_full : Prop :=
  ∀ f f' c c' : String, appendClass f c = appendClass f' c' → f = f' ∧ c = c'

/-- False: feature `a` with class `1_2` and feature `a_1` with class `2` both give `a_1_2`
    (recorded as a limitation; such names are not generated by the harness). -/
theorem names_collision : ¬ C12_names_injective_full := by
  intro h
  have := h "a" "a_1" "1_2" "2" (by decide)
  exact absurd this.1 (by decide)

open FrameLemmas MultiLemmas

/-- **MulticlassCarver = one-vs-rest BinaryCarvers, column by column.**  For every carved class
    `c` and every feature `f` kept by the carver of that class, on every frame both objects accept,
    the column `f_c` produced by the multiclass carver is the column `f` produced by that
    `BinaryCarver` — as long as the names `f_c` are unambiguous (`NamesInjective`) and what is read
    from each carver is coherent (`BResWF`: hypotheses on the fitted state, evaluated by the driver
    on the implementation's state). -/
theorem multiclass_column_eq_ovr (p : Shared) (raw classes : List String) (res : String → BRes)
    (hraw : raw.Nodup) (hcls : classes.Nodup) (hinj : NamesInjective raw classes)
    (hwf : ∀ c ∈ classes, BResWF raw (res c))
    (m b : Disc) (c f : String) (hc : c ∈ classes) (hf : f ∈ (res c).features)
    (hm : (assemble p raw classes res).fit = .ok m) (hb : ((res c).disc p).fit = .ok b)
    (x0 out outb : Frame) (htm : m.transform x0 = .ok out) (htb : b.transform x0 = .ok outb) :
    aget? out (appendClass f c) = aget? outb f := by
  have hal := alike_assemble p raw classes res hcls hinj hwf m b c f hc hf hm hb
  obtain ⟨_, em⟩ := fit_table _ _ hm
  obtain ⟨_, eb⟩ := fit_table _ _ hb
  have shm : m.Shape := by rw [em]; exact shape_assemble p raw classes res hraw hcls hinj _
  have shb : b.Shape := by rw [eb]; exact shape_disc p (res c) (hwf c hc).featNodup _
  -- the one-vs-rest carver casts every feature to itself, the multiclass carver copies `f` to `f_c`
  have hcb : b.castFeatures x0 = .ok x0 :=
    C07.castFeatures_self b x0 (by rw [eb]; simp [BRes.disc, List.all_map])
  cases hcm : m.castFeatures x0 with
  | error e => rw [transform_eq, hcm] at htm; cases htm
  | ok x =>
    have hx := (cast_assemble hinj (by rw [em]; rfl) hcm).1 f ((hwf c hc).featSub f hf) c hc hf
    obtain ⟨col, hcol⟩ := transform_cols_present b x0 x0 outb hcb htb f (by rw [eb]; exact hf)
    obtain ⟨c1, e1, o1⟩ := ((transform_spec m shm x0 x out hcm htm).2 _).1 col (hx.trans hcol)
    obtain ⟨c2, e2, o2⟩ := ((transform_spec b shb x0 x0 outb hcb htb).2 f).1 col hcol
    rw [o1, o2, Except.ok.inj ((colTransform_alike hal col c1 e1).symm.trans e2)]

/-- **`f_c` is kept iff the carver of class `c` keeps `f`.** -/
theorem multiclass_keeps_iff (p : Shared) (raw classes : List String) (res : String → BRes)
    (hinj : NamesInjective raw classes)
    (m : Disc) (hm : (assemble p raw classes res).fit = .ok m)
    (c f : String) (hc : c ∈ classes) (hf : f ∈ raw) :
    appendClass f c ∈ m.features ↔ f ∈ (res c).features := by
  obtain ⟨_, em⟩ := fit_table _ _ hm
  rw [em]
  show appendClass f c ∈ (assemble p raw classes res).features ↔ _
  rw [mem_assemble_features]
  constructor
  · rintro ⟨f', hf', c', hc', hk, e⟩
    obtain ⟨rfl, rfl⟩ := hinj f hf f' hf' c hc c' hc' e
    exact hk
  · intro hk
    exact ⟨f, hf, c, hc, hk, rfl⟩

/-- **The raw feature columns are returned unchanged** (no created name coincides with a raw
    feature name). -/
theorem multiclass_raw_unchanged (p : Shared) (raw classes : List String) (res : String → BRes)
    (hraw : raw.Nodup) (hcls : classes.Nodup) (hinj : NamesInjective raw classes)
    (m : Disc) (hm : (assemble p raw classes res).fit = .ok m)
    (x0 out : Frame) (htm : m.transform x0 = .ok out)
    (f : String) (hnew : ∀ f' ∈ raw, ∀ c' ∈ classes, appendClass f' c' ≠ f) :
    aget? out f = aget? x0 f := by
  obtain ⟨_, em⟩ := fit_table _ _ hm
  have shm : m.Shape := by rw [em]; exact shape_assemble p raw classes res hraw hcls hinj _
  -- `f` is no feature of the multiclass carver: `transform` works on its features only
  have hnotfeat : f ∉ (assemble p raw classes res).features := by
    rw [mem_assemble_features]
    rintro ⟨f', hf', c', hc', _, e⟩
    exact hnew f' hf' c' hc' e.symm
  have hq : f ∉ m.quant := by rw [em]; exact fun h => hnotfeat (List.mem_filter.1 h).1
  have hl : f ∉ m.qual := by rw [em]; exact fun h => hnotfeat (List.mem_filter.1 h).1
  have hfd : ∀ fd ∈ m.featDropna, fd.1 ≠ f := by
    rw [em]
    intro fd hfd e
    obtain ⟨n, hn, rfl⟩ := List.mem_map.1 (show fd ∈ (assemble p raw classes res).featDropna from hfd)
    exact hnotfeat (e ▸ hn)
  cases hcm : m.castFeatures x0 with
  | error e => rw [transform_eq, hcm] at htm; cases htm
  | ok x =>
    rw [C07.transform_nonfeature_unchanged m shm x0 x out hcm htm f hq hl hfd,
      (cast_assemble hinj (by rw [em]; rfl) hcm).2 f hnew]

/-! ## Non-vacuity -/

example : carvedClasses ["2", "10", "3", "10", "2"] = ["2", "3"] := by decide +kernel
example : indicator ["a", "b", "a"] "a" = [1, 0, 1] := by decide +kernel
example : appendClass "age" "c1" = "age_c1" := by decide +kernel

-- a concrete instance of `multiclass_column_eq_ovr`: classes "a" < "b" < "c" (carved: "b", "c"), features "q"
-- (quantitative, kept for both classes with different groupings) and "k" (qualitative, kept for class "b" only)
def exShared : Shared := ⟨true, some "__NAN__", some "__OTHER__", true⟩

def exRes : String → BRes
  | "b" => ⟨["q", "k"], [("q", GL.ofList [.num 1, .inf]), ("k", GL.ofList [.str "u", .str "v"])],
    [("q", true), ("k", false)]⟩
  | "c" => ⟨["q"], [("q", GL.ofList [.num 5, .inf])], [("q", true)]⟩
  | _ => default

def exX : Frame := [("q", [some (.num 0), some (.num 3), some (.num 9)]),
  ("k", [some (.str "v"), some (.str "u"), some (.str "v")])]

example : carvedClasses ["c", "a", "b", "a"] = ["b", "c"] := by decide +kernel
example : ((assemble exShared ["q", "k"] ["b", "c"] exRes).fit.bind fun m => m.transform exX) =
    .ok [("q", [some (.num 0), some (.num 3), some (.num 9)]),
         ("k", [some (.str "v"), some (.str "u"), some (.str "v")]),
         ("q_b", [some (.num 0), some (.num 1), some (.num 1)]), ("q_c", [some (.num 0), some (.num 0), some (.num 1)]),
         ("k_b", [some (.num 1), some (.num 0), some (.num 1)])] := by decide +kernel
example : (((exRes "c").disc exShared).fit.bind fun b => b.transform exX) =
    .ok [("q", [some (.num 0), some (.num 0), some (.num 1)]),
         ("k", [some (.str "v"), some (.str "u"), some (.str "v")])] := by
  decide +kernel
example : MultiLemmas.NamesInjective ["q", "k"] ["b", "c"] := by
  unfold MultiLemmas.NamesInjective
  decide +kernel
example : ∀ c ∈ ["b", "c"], MultiLemmas.BResWF ["q", "k"] (exRes c) := by
  intro c hc
  simp only [List.mem_cons, List.not_mem_nil, or_false] at hc
  rcases hc with rfl | rfl <;> exact ⟨by decide, by decide, by decide, by decide, by decide, by decide⟩

end C12
