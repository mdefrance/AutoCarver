import ACModel.Props.C01
import ACModel.Proofs.Rows
import ACModel.Props.C04
/-
  C02 — Carved features respect max_n_mod, min_freq_mod and dev robustness

  "After fit, transforming the training data gives for every kept feature at most max_n_mod
  distinct non-missing labels, each carried by at least min_freq_mod of the rows (of the
  non-missing rows when dropna=False), with no missing output when dropna=True and missing values
  preserved in place when dropna=False. When X_dev/y_dev were supplied, transforming X_dev yields
  the same label set, each label again at least min_freq_mod frequent, and ranking labels by target
  rate (mean of y) gives the same order on both samples."

  These are consequences of C01's search: whatever candidate wins is a member of the enumerated
  set (hence has at most `max_n_mod` groups) and passed the viability test (hence the frequency,
  distinct-rate and rank conditions on both samples).
-/

namespace C02
open Comb Carve C01

/-- **A stage-1 winner has between 2 and `max_n_mod` groups**, runs of consecutive labels. -/
theorem stage1_group_count (cfg : Cfg) (train : Table) (dev : Option (List (String × Row)))
    (labels : List String) (ws : List Cand) (dropOk : Bool)
    (h : search (candidates cfg train dev (consecutiveCombinations labels cfg.maxNMod)) 0 = .best ws dropOk) :
    ∀ w ∈ ws, 2 ≤ w.comb.length ∧ w.comb.length ≤ cfg.maxNMod ∧ IsCut labels w.comb := by
  intro w hw
  obtain ⟨h1, h2, h3⟩ := (argmax_of_search (consecutiveCombinations_iff labels _) h hw).1
  exact ⟨h2, h3, h1⟩

/-- **A stage-2 winner has at most `max_n_mod` groups, the missing-value group included.** -/
theorem stage2_group_count (cfg : Cfg) (train : Table) (dev : Option (List (String × Row)))
    (leaders : List String) (nan : String) (ws : List Cand) (dropOk : Bool)
    (h : search (candidates cfg train dev (nanCombinations leaders nan cfg.maxNMod)) 0 = .best ws dropOk) :
    ∀ w ∈ ws, w.comb.length ≤ cfg.maxNMod :=
  fun _ hw => nanCombinations_length _ _ _ _ (argmax_of_search (fun _ => Iff.rfl) h hw).1

theorem viable_train {cfg : Cfg} {train : List (String × Row)} {dev : Option (List (String × Row))}
    {comb : List (List String)} (h : (viability cfg train dev comb).viable = true) :
    minFreqOk cfg ((grouper cfg train comb).map (·.2)) = true ∧
    distinctRates ((grouper cfg train comb).map (·.2)) = true := by
  rw [viable_eq, Bool.and_eq_true, Bool.and_eq_true] at h
  exact h.1

/-- an oracle answer is only used where the rank test is open: a passed test is always a possible one -/
theorem resolveRanks_possible {cfg : Cfg} {gt gd : List (String × Row)} (h : (resolveRanks cfg gt gd).1 = true) :
    ranksPossible gt gd = true := by
  revert h
  fun_cases resolveRanks cfg gt gd
  -- case 1: the test is open (`ranksPossible && !ranksCertain`) and the oracle answers it; in the two others
  -- the first component is `ranksPossible` itself
  case case1 hopen b hb => exact fun _ => (Bool.and_eq_true_iff.1 hopen).1
  all_goals exact id

/-- **Dev robustness.** A viable combination tested against a dev sample satisfies on it the
    frequency bound, has every group observed (so that transforming the dev sample yields the same
    label set, whatever `min_freq_mod`), has distinct consecutive rates, and ranks the groups
    compatibly with train. -/
theorem viable_dev {cfg : Cfg} {train d : List (String × Row)} {comb : List (List String)}
    (h : (viability cfg train (some d) comb).viable = true) :
    (minFreqOk cfg ((grouper cfg d comb).map (·.2)) = true ∧
      (freqs ((grouper cfg d comb).map (·.2))).all (fun f => decide (0 < f)) = true) ∧
    distinctRates ((grouper cfg d comb).map (·.2)) = true ∧
    ranksPossible (grouper cfg train comb) (grouper cfg d comb) = true := by
  simp only [viable_eq, Bool.and_eq_true] at h
  -- `h` : train tests ∧ ((rank test ∧ dev frequencies) ∧ dev distinct rates)
  obtain ⟨_, ⟨hr, hm⟩, hd⟩ := h
  exact ⟨hm, hd, resolveRanks_possible hr⟩

/-- **Every group of the fitted grouping holds at least `min_freq_mod` of the rows** of the
    table the search ran on (non-missing rows in stage 1, all rows in stage 2). -/
theorem winner_min_freq (cfg : Cfg) (train : Table) (dev : Option (List (String × Row)))
    (combs : List (List (List String))) (ws : List Cand) (dropOk : Bool)
    (h : search (candidates cfg train dev combs) 0 = .best ws dropOk) :
    ∀ w ∈ ws, ∀ f ∈ freqs ((grouper cfg train.rows w.comb).map (·.2)), cfg.minFreqMod ≤ f := by
  intro w hw f hf
  have := (viable_train (argmax_of_search (fun _ => Iff.rfl) h hw).2.1).1
  exact of_decide_eq_true (List.all_eq_true.1 this f hf)

/-! ## The rows of the transformed column

The search works on a per-modality table; C02 speaks of the rows that `transform` labels.  When
the table counts the rows of the training column (`Counts`, what `_aggregator` computes; the harness
evaluates it on the tables it hands to the model), the `i`-th group of the fitted grouping holds
exactly the rows that come out with the `i`-th label (C04: `transform_seen_qual` / `_quant`), so the
frequency test passed by the winner is a statement about the output column. -/
open RowLemmas

/-- the grouping a fitted feature ends with: pairwise disjoint, non-empty groups covering the column -/
structure Covers (comb : List (List String)) (col : List String) : Prop where
  nodup : comb.flatten.Nodup
  nonempty : ∀ g ∈ comb, g ≠ []
  cover : ∀ v ∈ col, v ∈ comb.flatten

theorem groupRow_counts {t : List (String × Row)} {col : List String} (hc : Counts t col) {g : List String}
    (hnd : g.Nodup) : (groupRow t g).n = col.countP (fun v => g.contains v) ∧ (groupRow t g).poison = false :=
  ⟨by rw [groupRow_n, ← sum_count_eq_countP col g hnd]; exact congrArg _ (List.map_congr_left fun x _ => (hc x).1),
    groupRow_poison fun x _ => (hc x).2⟩

theorem Covers.nodup_group {comb : List (List String)} {col : List String} (h : Covers comb col) :
    ∀ g ∈ comb, g.Nodup :=
  (List.pairwise_flatten.1 h.nodup).1

/-- the row of the `i`-th group counts the rows of the column that `transform` sends to the `i`-th label -/
theorem group_row_counts (t : List (String × Row)) (col : List String) (comb : List (List String))
    (hc : Counts t col) (hcov : Covers comb col) (i : Nat) (hi : i < comb.length) :
    (groupRow t comb[i]).n = (col.map (groupIdx comb)).count i ∧
    (groupRow t comb[i]).poison = false := by
  have := groupRow_counts hc (hcov.nodup_group _ (List.getElem_mem hi))
  rwa [← count_groupIdx col comb hcov.nodup i hi] at this

/-- the frequencies `_test_viability` looks at are the shares of the rows that `transform` sends to each label -/
theorem freqs_rows (cfg : Cfg) (hns : cfg.sortGroupsByLabel = false) (t : List (String × Row))
    (col : List String) (comb : List (List String)) (hc : Counts t col) (hcov : Covers comb col) :
    freqs ((grouper cfg t comb).map (·.2)) = (List.range comb.length).map (fun i =>
      if col.length == 0 then (0 : Rat)
        else (((col.map (groupIdx comb)).count i : Nat) : Rat) / ((col.length : Nat) : Rat)) := by
  have htot : (((comb.map (groupRow t)).filter (fun r => !r.poison)).map (·.n)).foldl (· + ·) 0 = col.length := by
    -- the filter keeps every group row (none is poisoned); their sizes add up to the size of the row of
    -- `comb.flatten`, which counts the rows of `col` that some group covers: all of them
    rw [List.filter_eq_self.2 fun r hr => by
        obtain ⟨g, hg, rfl⟩ := List.mem_map.1 hr; rw [(groupRow_counts hc (hcov.nodup_group g hg)).2]; rfl,
      ← List.sum_eq_foldl, sum_groupRow_n, (groupRow_counts hc hcov.nodup).1]
    exact List.countP_eq_length.2 fun v hv => by simpa using hcov.cover v hv
  rw [grouper_rows hns t hcov.nonempty, freqs, htot, List.map_map]
  refine List.map_eq_map_range fun i hi => ?_
  obtain ⟨hn, hp⟩ := group_row_counts t col comb hc hcov i hi
  rw [Function.comp_apply, hn, hp, Bool.false_or]

theorem le_share {a : Rat} {c n : Nat} (h : a ≤ if (n == 0) = true then (0 : Rat) else (c : Rat) / (n : Rat)) :
    a * (n : Rat) ≤ (c : Rat) := by
  split at h
  · next h0 => rw [eq_of_beq h0]; simpa using (by exact_mod_cast Nat.zero_le c : (0 : Rat) ≤ c)
  · have hne : ((n : Nat) : Rat) ≠ 0 := by exact_mod_cast fun e => ‹¬_› (beq_iff_eq.2 e)
    have := Rat.mul_le_mul_of_nonneg_right h (by exact_mod_cast Nat.zero_le n : (0 : Rat) ≤ n)
    rwa [Rat.div_mul_cancel hne] at this

theorem pos_of_share_pos {c n : Nat} (h : (0 : Rat) < if (n == 0) = true then (0 : Rat) else (c : Rat) / (n : Rat)) :
    0 < c := by
  split at h
  · exact absurd h (by decide)
  · refine Nat.pos_of_ne_zero fun hz => ?_
    rw [hz, Rat.div_def] at h
    simp at h

theorem all_freqs_rows {cfg : Cfg} (hns : cfg.sortGroupsByLabel = false) {t : List (String × Row)}
    {col : List String} {comb : List (List String)} (hc : Counts t col) (hcov : Covers comb col) {p : Rat → Bool}
    (h : (freqs ((grouper cfg t comb).map (·.2))).all p = true) {i : Nat} (hi : i < comb.length) :
    p (if col.length == 0 then (0 : Rat)
      else (((col.map (groupIdx comb)).count i : Nat) : Rat) / ((col.length : Nat) : Rat)) = true := by
  rw [freqs_rows cfg hns t col comb hc hcov, List.all_eq_true] at h
  exact h _ (List.mem_map.2 ⟨i, List.mem_range.2 hi, rfl⟩)

/-- **Every label of the transformed training column is carried by at least `min_freq_mod` of its rows**,
    for a grouping that passed the frequency test of `_test_viability` on a table counting the rows of `col`. -/
theorem fitted_groups_frequent (cfg : Cfg) (hns : cfg.sortGroupsByLabel = false) (t : List (String × Row))
    (col : List String) (comb : List (List String)) (hc : Counts t col) (hcov : Covers comb col)
    (hmf : minFreqOk cfg ((grouper cfg t comb).map (·.2)) = true) :
    ∀ i, i < comb.length →
      cfg.minFreqMod * ((col.length : Nat) : Rat) ≤ (((col.map (groupIdx comb)).count i : Nat) : Rat) :=
  fun _ hi => le_share (of_decide_eq_true (all_freqs_rows hns hc hcov hmf hi))

/-- **Every label is present on the dev sample**, with at least `min_freq_mod` of the dev rows: transforming
    `X_dev` yields the same label set as transforming `X`. -/
theorem dev_rows (cfg : Cfg) (hns : cfg.sortGroupsByLabel = false) (train d : List (String × Row))
    (colDev : List String) (comb : List (List String)) (hc : Counts d colDev) (hcov : Covers comb colDev)
    (h : (viability cfg train (some d) comb).viable = true) :
    ∀ i, i < comb.length → 0 < (colDev.map (groupIdx comb)).count i ∧
      cfg.minFreqMod * ((colDev.length : Nat) : Rat) ≤ (((colDev.map (groupIdx comb)).count i : Nat) : Rat) :=
  fun i hi => ⟨pos_of_share_pos (of_decide_eq_true (all_freqs_rows hns hc hcov (viable_dev h).1.2 hi)),
    fitted_groups_frequent cfg hns d colDev comb hc hcov (viable_dev h).1.1 i hi⟩

/-- **At most as many labels as groups** (which `stage1_group_count` / `stage2_group_count` bound by `max_n_mod`). -/
theorem fitted_labels_bounded (col : List String) (comb : List (List String)) (hcov : Covers comb col) :
    ∀ k ∈ col.map (groupIdx comb), k < comb.length :=
  fun _ hk => let ⟨v, hv, e⟩ := List.mem_map.1 hk; e ▸ groupIdx_lt comb v (hcov.cover v hv)

theorem covers_of_cut {labels : List String} {comb : List (List String)} {col : List String}
    (hcut : IsCut labels comb) (hnd : labels.Nodup) (hcol : ∀ v ∈ col, v ∈ labels) : Covers comb col :=
  ⟨by rw [hcut.1]; exact hnd, hcut.2, by rw [hcut.1]; exact hcol⟩

theorem fitted_rows {cfg : Cfg} (hns : cfg.sortGroupsByLabel = false) {t : List (String × Row)}
    {dev : Option (List (String × Row))} {col : List String} {comb : List (List String)} (hc : Counts t col)
    (hcov : Covers comb col) (hle : comb.length ≤ cfg.maxNMod) (hv : (viability cfg t dev comb).viable = true) :
    (∀ k ∈ col.map (groupIdx comb), k < cfg.maxNMod) ∧
      ∀ i, i < comb.length →
        cfg.minFreqMod * ((col.length : Nat) : Rat) ≤ (((col.map (groupIdx comb)).count i : Nat) : Rat) :=
  ⟨fun k hk => Nat.lt_of_lt_of_le (fitted_labels_bounded col comb hcov k hk) hle,
    fitted_groups_frequent cfg hns t col comb hc hcov (viable_train hv).1⟩

/-- **Stage 1, on the rows.**  Whatever grouping the search over the consecutive groupings of distinct base labels
    returns, the transformed training column has at most `max_n_mod` distinct values, each carried by at least
    `min_freq_mod` of the rows. -/
theorem stage1_rows (cfg : Cfg) (hns : cfg.sortGroupsByLabel = false) (train : Table)
    (dev : Option (List (String × Row)))
    (labels : List String) (hnd : labels.Nodup) (col : List String) (hcol : ∀ v ∈ col, v ∈ labels)
    (hc : Counts train.rows col) (ws : List Cand) (dropOk : Bool)
    (h : search (candidates cfg train dev (consecutiveCombinations labels cfg.maxNMod)) 0 = .best ws dropOk) :
    ∀ w ∈ ws, (∀ k ∈ col.map (groupIdx w.comb), k < cfg.maxNMod) ∧
      ∀ i, i < w.comb.length →
        cfg.minFreqMod * ((col.length : Nat) : Rat) ≤ (((col.map (groupIdx w.comb)).count i : Nat) : Rat) := by
  intro w hw
  obtain ⟨⟨hcut, _, hle⟩, hv, _⟩ := argmax_of_search (consecutiveCombinations_iff labels _) h hw
  exact fitted_rows hns hc (covers_of_cut hcut hnd hcol) hle hv

/-- a placement of the missing-value modality in a cut of distinct leaders covers every column made of these labels -/
theorem covers_of_nanPlacement {leaders : List String} {nan : String} {m : Nat} {comb : List (List String)}
    {col : List String} (hmem : comb ∈ nanCombinations leaders nan m) (hnd : (nan :: leaders).Nodup)
    (hcol : ∀ v ∈ col, v ∈ nan :: leaders) :
    Covers comb col := by
  obtain ⟨c0, ⟨⟨rfl, hne⟩, _, _⟩, h⟩ := (nanCombinations_iff leaders nan m comb).1 hmem
  -- either way the groups hold `nan` and the leaders once each, and none is empty
  suffices comb.flatten.Perm (nan :: c0.flatten) ∧ ∀ g ∈ comb, g ≠ [] from
    ⟨this.1.nodup_iff.2 hnd, this.2, fun v hv => this.1.mem_iff.2 (hcol v hv)⟩
  rcases h with ⟨n, hn, rfl⟩ | ⟨_, rfl⟩
  · exact ⟨addAt_flatten_perm nan n c0 hn, addAt_nonempty nan n c0 hne⟩
  · refine ⟨?_, List.forall_mem_append.2 ⟨hne, List.forall_mem_singleton.2 (List.cons_ne_nil _ _)⟩⟩
    rw [List.flatten_append, List.flatten_singleton]
    exact List.perm_append_comm

/-- **Stage 2, on the rows** (`dropna=True`: the missing values are given a group).  Whatever placement of the
    missing-value modality the second search returns, the transformed training column has at most `max_n_mod` distinct
    values, none of them missing, each carried by at least `min_freq_mod` of all the rows. -/
theorem stage2_rows (cfg : Cfg) (hns : cfg.sortGroupsByLabel = false) (train : Table)
    (dev : Option (List (String × Row)))
    (leaders : List String) (nan : String) (hnd : (nan :: leaders).Nodup) (col : List String)
    (hcol : ∀ v ∈ col, v ∈ nan :: leaders) (hc : Counts train.rows col) (ws : List Cand) (dropOk : Bool)
    (h : search (candidates cfg train dev (nanCombinations leaders nan cfg.maxNMod)) 0 = .best ws dropOk) :
    ∀ w ∈ ws, (∀ k ∈ col.map (groupIdx w.comb), k < cfg.maxNMod) ∧
      ∀ i, i < w.comb.length →
        cfg.minFreqMod * ((col.length : Nat) : Rat) ≤ (((col.map (groupIdx w.comb)).count i : Nat) : Rat) := by
  intro w hw
  obtain ⟨hmem, hv, _⟩ := argmax_of_search (fun _ => Iff.rfl) h hw
  exact fitted_rows hns hc (covers_of_nanPlacement hmem hnd hcol) (nanCombinations_length _ _ _ _ hmem) hv

/-- the table sums the target over the rows of each modality (the other half of what `_aggregator` computes) -/
def Sums (t : List (String × Row)) (col : List String) (y : List Rat) : Prop :=
  ∀ l, (lookupRow t l).s = sumWhere (fun c => c == l) col y

/-- mean of the target over the rows that `transform` sends to the `i`-th label (`none`: no such row) -/
def meanOfLabel (comb : List (List String)) (col : List String) (y : List Rat) (i : Nat) : Option Rat :=
  if (col.map (groupIdx comb)).count i == 0 then none
  else some (sumWhere (fun c => groupIdx comb c == i) col y / (((col.map (groupIdx comb)).count i : Nat) : Rat))

/-- **The target rates `_test_viability` compares and ranks are the means of the target over the rows of each output
    label**: the distinct-rate test and the train/dev rank test of `viable_train` / `viable_dev` speak of
    `groupby(label)[y].mean()` of the transformed samples. -/
theorem rates_rows (cfg : Cfg) (hns : cfg.sortGroupsByLabel = false) (t : List (String × Row))
    (col : List String) (y : List Rat) (comb : List (List String))
    (hc : Counts t col) (hs : Sums t col y) (hcov : Covers comb col) :
    (grouper cfg t comb).map (fun p => rate p.2) = (List.range comb.length).map (meanOfLabel comb col y) := by
  rw [show (grouper cfg t comb).map (fun p => rate p.2) = ((grouper cfg t comb).map (·.2)).map rate from
    (List.map_map (g := rate)).symm, grouper_rows hns t hcov.nonempty, List.map_map]
  refine List.map_eq_map_range fun i hi => ?_
  obtain ⟨hn, hp⟩ := group_row_counts t col comb hc hcov i hi
  have hsum : (groupRow t comb[i]).s = sumWhere (fun c => groupIdx comb c == i) col y := by
    rw [groupRow_s, List.map_congr_left fun x _ => hs x,
      sum_sumWhere_group col y _ (hcov.nodup_group _ (List.getElem_mem hi))]
    exact sumWhere_congr y fun c _ => contains_getElem hcov.nodup hi c
  simp only [Function.comp_apply, rate, meanOfLabel, hp, hn, hsum, Bool.false_or]

/-- the rank test, on two vectors of rates: no pair of positions is strictly inverted between them -/
def noInversion (tr dr : List (Option Rat)) : Bool :=
  (pairs (tr.zip dr)).all (fun p =>
    !((rateLt p.1.1 p.2.1 && rateLt p.2.2 p.1.2) || (rateLt p.2.1 p.1.1 && rateLt p.1.2 p.2.2)))

theorem ranksPossible_rates (t d : List (String × Row)) :
    ranksPossible t d = noInversion (t.map (fun p => rate p.2)) (d.map (fun p => rate p.2)) := by
  unfold ranksPossible noInversion
  rw [List.zip_map, pairs_map, List.all_map]
  rfl

/-- **Ranking the labels by target rate gives compatible orders on both samples**: for a grouping that passed the dev
    tests, no two labels are strictly inverted between the vector of `groupby(label)[y].mean()` of the transformed train
    sample and that of the transformed dev sample. -/
theorem dev_rank_rows (cfg : Cfg) (hns : cfg.sortGroupsByLabel = false) (train d : List (String × Row))
    (col colDev : List String) (y yDev : List Rat) (comb : List (List String))
    (hc : Counts train col) (hs : Sums train col y) (hcov : Covers comb col)
    (hcd : Counts d colDev) (hsd : Sums d colDev yDev) (hcovd : Covers comb colDev)
    (h : (viability cfg train (some d) comb).viable = true) :
    noInversion ((List.range comb.length).map (meanOfLabel comb col y))
      ((List.range comb.length).map (meanOfLabel comb colDev yDev)) = true := by
  obtain ⟨_, _, hr⟩ := viable_dev h
  rw [ranksPossible_rates, rates_rows cfg hns train col y comb hc hs hcov,
    rates_rows cfg hns d colDev yDev comb hcd hsd hcovd] at hr
  exact hr

/-- **The transformed column is the column of group indices, label by label**: for a fitted qualitative feature
    (order `g`, one label per group), every accepted row whose value belongs to a group comes out with the label
    whose position is the index of that group — the column `col.map (groupIdx comb)` of the frequency theorems, read
    through the labels. -/
theorem transform_label_is_groupIdx (f : String) (g : GL) (hwf : g.WF) (labels : List Val)
    (strNan strDefault : Option String)
    (cin cout : Col) (h : Disc.transformQualCol f g (Disc.tableOf g labels) strNan strDefault cin = .ok cout)
    (hlen : labels.length = g.lst.length)
    (k : Nat) (v : Val) (hk : cin[k]? = some (some v)) (hv : v ∈ (g.lst.map g.get).flatten) :
    ∃ hi : groupIdx (g.lst.map g.get) v < labels.length,
      cout[k]? = some (some (labels[groupIdx (g.lst.map g.get) v]'hi)) := by
  have hnd := hwf.wf'.nodup_groups
  have hlt := groupIdx_lt (g.lst.map g.get) v hv
  have hi : groupIdx (g.lst.map g.get) v < g.lst.length := by simpa using hlt
  have hmem := (groupIdx_eq_iff (g.lst.map g.get) _ hlt v hnd).1 rfl
  rw [List.getElem_map] at hmem
  refine ⟨by omega, ?_⟩
  exact C04.transformQualCol_member f g hwf labels strNan strDefault cin cout h k _ hi (by omega) v hk hmem

/-! ## Non-vacuity -/

private def t0 : List (String × Row) :=
  [("a", ⟨10, 1, 0, false⟩), ("b", ⟨10, 5, 0, false⟩), ("c", ⟨10, 9, 0, false⟩)]
private def cfg0 : Cfg := { kind := .binary, sortBy := .cramerv, minFreqMod := 1/10, maxNMod := 3, dropna := true }
example : (viability cfg0 t0 none [["a"], ["b", "c"]]).viable = true := by decide +kernel
example : (viability cfg0 t0 (some t0) [["a"], ["b"], ["c"]]).certain = true := by decide +kernel

private def col0 : List String := ["a", "b", "c", "c", "b", "a", "a", "c", "b", "b"]
private def t1 : List (String × Row) := [("a", ⟨3, 1, 0, false⟩), ("b", ⟨4, 2, 0, false⟩), ("c", ⟨3, 3, 0, false⟩)]
example : ∀ l ∈ ["a", "b", "c", "zz"], (lookupRow t1 l).n = col0.count l ∧
    (lookupRow t1 l).poison = false := by decide +kernel
example : Covers [["a"], ["b", "c"]] col0 := ⟨by decide +kernel, by decide +kernel, by decide +kernel⟩
example : minFreqOk cfg0 ((grouper cfg0 t1 [["a"], ["b", "c"]]).map (·.2)) = true := by decide +kernel
example : col0.map (groupIdx [["a"], ["b", "c"]]) = [0, 1, 1, 1, 1, 0, 0, 1, 1, 1] := by decide +kernel

private def y0 : List Rat := [1, 0, 1, 1, 1, 0, 0, 1, 1, 0]
example : ∀ l ∈ ["a", "b", "c", "zz"], (lookupRow t1 l).s = sumWhere (fun c => c == l) col0 y0 := by decide +kernel
example : meanOfLabel [["a"], ["b", "c"]] col0 y0 0 = some (1 / 3) ∧
    meanOfLabel [["a"], ["b", "c"]] col0 y0 1 = some (5 / 7) := by
  decide +kernel

end C02
