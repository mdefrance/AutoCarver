import ACModel.Proofs.GroupedList
import ACModel.Proofs.Refine
/-
  C13 — GroupedList stays a consistent ordered partition under any history

  "After any sequence of GroupedList operations (construction from list, dict or copy; group,
  group_list, append, update, remove, pop, sort, sort_by, replace_group_leader) the list elements
  are unique and are exactly the keys of `content`, groups are pairwise disjoint, every leader
  belongs to its own group, and `get`, `get_group`, `values` and `contains` agree with `content`.
  No value disappears except through remove/pop, and each operation's effect equals that of a
  plain reference model (ordered leader -> members)."

  The model is `ACModel/Model/GroupedList.lean` (statement-by-statement mirror of
  `grouped_list.py`), `WF`/`Valid` are in `ACModel/Spec/GroupedList.lean`.
-/

namespace GL
open Dict

/-- `GroupedList(a_list)` of distinct values is well formed. -/
theorem C13_ctor_list_WF {l : List Val} (hn : l.Nodup) : (ofList l).WF :=
  (ofList_WF' hn).wf

/-- `GroupedList(a_dict)`: whenever the constructor does not raise, the result is well formed
    (`ofDict_eq` says what it is). -/
theorem C13_ctor_dict_WF {d : Dict} {g : GL} (hk : d.keys.Nodup) (h : ofDict d = .ok g) : g.WF :=
  (ofDict_WF' hk h).wf

/-- The only exception `GroupedList(a_dict)` can raise is the AssertionError "value present in
    several keys". -/
theorem C13_ctor_dict_error {d : Dict} {e : Err} (h : ofDict d = .error e) :
    e = .assertion "A value is present in several keys (groups)" ∧ ¬ d.allValues.Nodup := by
  unfold ofDict at h
  split at h
  · rename_i hn
    injection h with h
    exact ⟨h.symm, hn⟩
  · cases h

/-- On a dict that already is a partition the constructor changes nothing. -/
theorem C13_ctor_dict_id {d : Dict} (hn : d.keys.Nodup) (hv : d.allValues.Nodup)
    (hs : ∀ kv ∈ d, kv.1 ∈ kv.2) : ofDict d = .ok ⟨d.keys, d⟩ :=
  ofDict_id hn ((nodup_allValues_iff hn).1 hv) hs

theorem C13_ctor_copy_WF {g : GL} (h : g.WF) : g.copy.WF := h

theorem step_groupNan_cases (g : GL) (d k : Arg) :
    (∃ d' k', d = .val d' ∧ k = .val k') ∨
    (step g (.groupNan d k)).1 = g ∧ ∀ s, RefGL.step s (.groupNan d k) = s := by
  cases d <;> cases k
  · exact .inl ⟨_, _, rfl, rfl⟩
  · refine .inr ⟨?_, fun _ => rfl⟩
    rw [step]; split <;> rfl
  · exact .inr ⟨rfl, fun _ => rfl⟩
  · exact .inr ⟨rfl, fun _ => rfl⟩

/-- One step: from a well-formed state, a valid operation leads to a well-formed state —
    also when the operation raises (the state a caller is left with after catching the exception). -/
theorem C13_step_WF {g : GL} (h : g.WF) (op : Op) (hv : Valid g op) : (step g op).1.WF := by
  rw [wf_iff] at h ⊢
  cases op with
  | group d k => exact group_WF' h d k
  | groupList ds k => exact groupList_WF' h ds k
  | append v => exact append_WF' h v hv
  | update d => exact update_WF' h d hv
  | remove v => exact remove_WF' h v
  | pop i => exact pop_WF' h i
  | sort =>
    rw [step]
    split
    · rename_i g' heq; exact sort_WF' heq
    · exact h
  | sortBy o =>
    rw [step]
    split
    · rename_i g' heq; exact sortBy_WF' heq
    · exact h
  | replaceLeader l m => exact replaceLeader_WF' h l m hv
  | groupNan d k =>
    rcases step_groupNan_cases g d k with ⟨d', k', rfl, rfl⟩ | ⟨e, _⟩
    · exact group_WF' h d' k'
    · rw [e]; exact h

/-- A history is valid when each operation is valid in the state it is applied to. -/
def ValidRun : GL → List Op → Prop
  | _, [] => True
  | g, op :: ops => Valid g op ∧ ValidRun (step g op).1 ops

def decValidRun : (g : GL) → (ops : List Op) → Decidable (ValidRun g ops)
  | _, [] => isTrue trivial
  | g, op :: ops => @instDecidableAnd _ _ _ (decValidRun (step g op).1 ops)

instance (g : GL) (ops : List Op) : Decidable (ValidRun g ops) := decValidRun g ops

/-- **Main invariant**: after any finite valid history the list is well formed. -/
theorem C13_run_WF {g : GL} (h : g.WF) (ops : List Op) (hv : ValidRun g ops) : (run g ops).WF := by
  induction ops generalizing g with
  | nil => exact h
  | cons op ops ih => exact ih (C13_step_WF h op hv.1) hv.2

/-- The same for every history started from a constructor. -/
theorem C13_history_from_list {l : List Val} (hn : l.Nodup) (ops : List Op)
    (hv : ValidRun (ofList l) ops) : (run (ofList l) ops).WF :=
  C13_run_WF (C13_ctor_list_WF hn) ops hv

theorem C13_history_from_dict {d : Dict} {g : GL} (hk : d.keys.Nodup) (h : ofDict d = .ok g)
    (ops : List Op) (hv : ValidRun g ops) : (run g ops).WF :=
  C13_run_WF (C13_ctor_dict_WF hk h) ops hv

/-- From a well-formed state `group` raises nothing but an `AssertionError` (an argument is no
    leader), and then leaves the state untouched. -/
theorem C13_error_keeps_state_group {g : GL} (h : g.WF) (d k : Val) {e : Err}
    (he : (g.group d k).2 = some e) : (g.group d k).1 = g ∧ ∃ m, e = .assertion m := by
  rcases group_cases (fun _ => h.wf'.mem_keys) d k with ⟨e', _⟩ | ⟨⟨m, e'⟩, _⟩ | ⟨e', _⟩ <;> rw [e'] at he ⊢
  · cases he
  · exact ⟨rfl, m, (Option.some.inj he).symm⟩
  · cases he

theorem C13_get_agrees {g : GL} (h : g.WF) {k : Val} {vs : List Val} (hk : (k, vs) ∈ g.content) :
    g.get k = vs := get_of_mem h.wf'.nodup_keys hk

theorem C13_get_absent {g : GL} {k : Val} (hk : k ∉ g.lst) (h : g.WF) : g.get k = [] :=
  get_of_not_mem (mt (h.wf'.mem_iff k).2 hk)

theorem C13_values_agree (g : GL) (v : Val) : v ∈ g.values ↔ ∃ kv ∈ g.content, v ∈ kv.2 :=
  mem_allValues

theorem any_isEqual_val {l : List Val} {v : Val} : l.any (isEqual (.val v)) = true ↔ v ∈ l := by
  rw [List.any_eq_true]
  exact ⟨fun ⟨x, hx, he⟩ => of_decide_eq_true he ▸ hx, fun h => ⟨v, h, decide_eq_true rfl⟩⟩

theorem any_isEqual_nan (l : List Val) : l.any (isEqual .nan) = false :=
  List.any_eq_false.2 fun _ _ => Bool.false_ne_true

theorem C13_contains_agrees (g : GL) (v : Val) :
    g.contains (.val v) = true ↔ ∃ kv ∈ g.content, v ∈ kv.2 :=
  any_isEqual_val.trans mem_allValues

theorem C13_contains_nan (g : GL) : g.contains .nan = false := any_isEqual_nan _

/-- The keys whose group holds `v`: under `WF` there is exactly one. -/
theorem found_eq_singleton {g : GL} (h : g.WF) {kv : Val × List Val} (hkv : kv ∈ g.content)
    {v : Val} (hv : v ∈ kv.2) :
    (g.content.filter (fun x => x.2.any (isEqual (.val v)))).map (·.1) = [kv.1] := by
  have h' := h.wf'
  have hn : g.content.Nodup := List.Pairwise.of_map (·.1) (fun a b hab e => hab (e ▸ rfl)) h'.nodup_keys
  -- the groups being disjoint, the entries that hold `v` are `kv` alone
  have hp : ∀ x ∈ g.content, x.2.any (isEqual (.val v)) = decide (x = kv) := fun x hx => by
    rw [Bool.eq_iff_iff, any_isEqual_val, decide_eq_true_eq]
    refine ⟨fun hvx => ?_, fun e => e ▸ hv⟩
    have e1 : x.1 = kv.1 := Classical.byContradiction fun hne => h'.part.1.1 x hx kv hkv hne v hvx hv
    exact Prod.ext e1 (unique_of_mem h'.nodup_keys (mem_of_fst_eq hx e1) hkv)
  rw [List.filter_congr hp, List.filter_eq, hn.count, if_pos hkv]
  rfl

/-- `get_group` of a grouped value is the leader of its (unique) group — for every leader,
    including the falsy ones (`0`, `""`) on which the unrepaired code failed. -/
theorem C13_getGroup_agrees {g : GL} (h : g.WF) {kv : Val × List Val} (hkv : kv ∈ g.content)
    {v : Val} (hv : v ∈ kv.2) : g.getGroup (.val v) = .val kv.1 := by
  unfold getGroup
  simp only [found_eq_singleton h hkv hv]

/-- regression witness of the repaired defect: leader `0`, member `1` -/
example : (⟨[.num 0], [(.num 0, [.num 1, .num 0])]⟩ : GL).getGroup (.val (.num 1)) = .val (.num 0) := by
  decide +kernel

theorem getGroup_of_not_found {g : GL} {a : Arg} (h : ∀ x ∈ g.content, x.2.any (isEqual a) = false) :
    g.getGroup a = a := by
  unfold getGroup
  rw [List.filter_eq_nil_iff.2 fun x hx => ne_true_of_eq_false (h x hx)]
  rfl

/-- `get_group` of an unknown value is the value itself. -/
theorem C13_getGroup_unknown {g : GL} {v : Val} (hv : v ∉ g.values) :
    g.getGroup (.val v) = .val v :=
  getGroup_of_not_found fun x hx =>
    eq_false_of_ne_true fun hc => hv (mem_allValues.2 ⟨x, hx, any_isEqual_val.1 hc⟩)

theorem C13_getGroup_nan (g : GL) : g.getGroup .nan = .nan :=
  getGroup_of_not_found fun x _ => any_isEqual_nan x.2

/-- operations other than `remove`/`pop` (and `update`, which may overwrite a group: see
    `C13_values_monotone_update`); of `sort_by` the given order is to have no repetition -/
def KeepsValuesOp : Op → Prop
  | .remove _ => False
  | .pop _ => False
  | .update _ => False
  | .sortBy o => o.Nodup
  | _ => True

theorem group_values {g : GL} (h : g.WF') (d k v : Val) (hv : v ∈ g.values) :
    v ∈ (g.group d k).1.values := by
  rcases group_cases (fun _ => h.mem_keys) d k with ⟨e, _⟩ | ⟨⟨_, e⟩, _⟩ | ⟨e, _⟩ <;> rw [e]
  · exact hv
  · exact hv
  -- a value of `d`'s or `k`'s group is now in `k`'s, any other is where it was
  obtain ⟨x, hx⟩ := exists_get_of_mem_values h.nodup_keys hv
  by_cases hxk : k = x
  · exact mem_values_of_mem_get
      (by rw [get_put, if_pos rfl]; exact List.mem_append_right _ (hxk ▸ hx))
  by_cases hxd : x = d
  · exact mem_values_of_mem_get
      (by rw [get_put, if_pos rfl]; exact List.mem_append_left _ (hxd ▸ hx))
  · exact mem_values_of_mem_get (by rwa [get_put, if_neg hxk, get_del_of_ne _ hxd])

theorem groupList_values {g : GL} (h : g.WF') (ds : List Val) (k v : Val) (hv : v ∈ g.values) :
    v ∈ (g.groupList ds k).1.values :=
  (groupList_induction (P := fun g => g.WF' ∧ v ∈ g.values)
    (fun _ d h => ⟨⟨group_WF' h.1 d k, group_values h.1 d k v h.2⟩, fun _ _ => trivial⟩) ds ⟨h, hv⟩).1.2

theorem replaceLeader_values {g : GL} (h : g.WF') {l m v : Val} (hlm : l ≠ m) (hv : v ∈ g.values) :
    v ∈ (g.replaceLeader l m).1.values := by
  rcases replaceLeader_cases g l m with ⟨e, _⟩ | ⟨e, hm, -⟩ <;> rw [e]
  · exact hv
  -- the group of `l` is now the (new, last) group of `m`; the others are where they were
  have hmk : m ∉ keys (g.content.erase l) := fun hc =>
    h.not_mem_lst_of_mem_get hlm hm ((h.mem_iff m).2 (List.mem_of_mem_erase (keys_erase _ _ ▸ hc)))
  show v ∈ allValues ((g.content.set m (g.get l)).erase l)
  rw [erase_set_comm _ hlm, allValues_set_of_not_mem hmk, List.mem_append]
  obtain ⟨x, hx, hvx⟩ := mem_allValues.1 hv
  by_cases hxl : x.1 = l
  · exact .inr (get_of_mem h.nodup_keys (mem_of_fst_eq hx hxl) ▸ hvx)
  · exact .inl (mem_allValues.2 ⟨x, (mem_erase h.nodup_keys).2 ⟨hx, hxl⟩, hvx⟩)

/-- **No value disappears** through group, group_list, append, sort, sort_by (by an ordering without
    repetition) or replace_group_leader. -/
theorem C13_values_monotone {g : GL} (h : g.WF) (op : Op) (hv : Valid g op)
    (hk : KeepsValuesOp op) {v : Val} (hmem : v ∈ g.values) : v ∈ (step g op).1.values := by
  have h := h.wf'
  cases op with
  | group d k => exact group_values h d k v hmem
  | groupList ds k => exact groupList_values h ds k v hmem
  | append w =>
    show v ∈ allValues (g.content.set w [w])
    rw [allValues_set_of_not_mem (mt (h.mem_iff w).2 (h.not_mem_lst hv))]
    exact List.mem_append_left _ hmem
  | update d => exact hk.elim
  | remove w => exact hk.elim
  | pop i => exact hk.elim
  | sort =>
    rw [step, sort_eq h]
    exact mem_values_reorder h (fun _ => (perm_sortedKeys g.lst).mem_iff.1)
      (fun _ => (perm_sortedKeys g.lst).mem_iff.2) hmem
  | sortBy o =>
    rw [step]
    rcases sortBy_cases h hk with ⟨⟨_, e⟩, _⟩ | ⟨e, h1, h2⟩ <;> rw [e]
    · exact hmem
    · exact mem_values_reorder h h1 h2 hmem
  | replaceLeader l m => exact replaceLeader_values h hv hmem
  | groupNan d k =>
    rcases step_groupNan_cases g d k with ⟨d', k', rfl, rfl⟩ | ⟨e, _⟩
    · exact group_values h d' k' v hmem
    · rw [e]; exact hmem

/-- `update` keeps every value as long as each overwritten group is re-listed in the new dict. -/
theorem C13_values_monotone_update {g : GL} (h : g.WF) (d : Dict) (hd : ValidUpdate g d)
    (hkeep : ∀ kv ∈ g.content, kv.1 ∈ d.keys → ∀ v ∈ kv.2, v ∈ d.allValues)
    {v : Val} (hmem : v ∈ g.values) : v ∈ (g.update d).values := by
  obtain ⟨x, hx, hvx⟩ := mem_allValues.1 hmem
  refine mem_allValues.2 ?_
  by_cases hxd : x.1 ∈ d.keys
  · obtain ⟨y, hy, hvy⟩ := mem_allValues.1 (hkeep x hx hxd v hvx)
    exact ⟨y, (mem_update h.wf'.nodup_keys hd.1).2 (.inr hy), hvy⟩
  · exact ⟨x, (mem_update h.wf'.nodup_keys hd.1).2 (.inl ⟨hx, hxd⟩), hvx⟩

/-- the reference model reads a `sort_by` ordering with repeated values as its first occurrences;
    the refinement is proved for duplicate-free orderings -/
def Refinable : Op → Prop
  | .sortBy o => o.Nodup
  | _ => True

instance (op : Op) : Decidable (Refinable op) := by
  cases op <;> unfold Refinable <;> infer_instance

/-- **One step** has the effect of the same step of the reference model `RefGL` (an ordered list
    `leader ↦ members`) on the state read in list order (`abs`) — also when the operation raises:
    the reference model then leaves the state alone or, for `group_list`, keeps the effect of the
    elements already grouped. -/
theorem C13_refinement {g : GL} (h : g.WF) (op : Op) (hv : Valid g op) (hr : Refinable op) :
    abs (step g op).1 = RefGL.step (abs g) op := by
  have h' := h.wf'
  cases op with
  | group d k => exact abs_group h' d k
  | groupList ds k => exact abs_groupList h' ds k
  | append v => exact abs_append h' v hv
  | update d => exact abs_update h' d hv
  | remove v => exact (abs_remove h' v).trans (by rw [RefGL.step, leaders_abs])
  | pop i =>
    refine (abs_pop h' i).trans ?_
    rw [RefGL.step, leaders_abs]
    cases pyIndex g.lst i <;> rfl
  | sort =>
    rw [step, RefGL.step, leaders_abs]
    refine Eq.trans ?_ (abs_sort h')
    cases g.sort <;> rfl
  | sortBy o =>
    rw [step, RefGL.step, List.eraseDups_of_nodup hr]
    refine Eq.trans ?_ (abs_sortBy h' o hr)
    cases g.sortBy o <;> rfl
  | replaceLeader l m => exact abs_replaceLeader h' l m hv
  | groupNan d k =>
    rcases step_groupNan_cases g d k with ⟨d', k', rfl, rfl⟩ | ⟨e, hs⟩
    · exact abs_group h' d' k'
    · rw [e, hs]

/-- **Any history**: running a valid history on the implementation model and on the reference
    model from corresponding states ends in corresponding states. -/
theorem C13_refinement_run {g : GL} (h : g.WF) (ops : List Op) (hv : ValidRun g ops)
    (hr : ∀ op ∈ ops, Refinable op) : abs (run g ops) = ops.foldl RefGL.step (abs g) := by
  induction ops generalizing g with
  | nil => rfl
  | cons op ops ih =>
    simp only [List.foldl_cons]
    rw [← C13_refinement h op hv.1 (hr op List.mem_cons_self)]
    exact ih (C13_step_WF h op hv.1) hv.2 (fun o ho => hr o (List.mem_cons_of_mem _ ho))

/-! ## Non-vacuity -/

private def ex1 : GL := ofList [.str "a", .str "b", .num 1, .str "__NAN__"]

example : ex1.WF := by decide +kernel
example : ValidRun ex1 [.group (.str "a") (.str "b"), .append (.num 0), .sort,
    .replaceLeader (.str "b") (.str "a"), .pop (-1)] := by decide +kernel
example : (run ex1 [.group (.str "a") (.str "b"), .append (.num 0), .sort,
    .replaceLeader (.str "b") (.str "a"), .pop (-1)]).lst = [.str "__NAN__", .str "a", .num 0] := by decide +kernel
example : (match ofDict [(.str "a", [.str "b"]), (.str "c", [.str "c", .str "a"])] with
    | .ok g => decide (g = ⟨[.str "c"], [(.str "c", [.str "c", .str "a"])]⟩)
    | .error _ => false) = true := by decide +kernel
example : ValidUpdate (ofList [.str "1", .str "b"]) [(.str "1", [.num 1, .str "1"])] := by decide +kernel
example : ∀ op ∈ [Op.group (.str "a") (.str "b"), .append (.num 0), .sort,
    .replaceLeader (.str "b") (.str "a"), .pop (-1)], Refinable op := by decide +kernel
example : [Op.group (.str "a") (.str "b"), .append (.num 0), .sort,
    .replaceLeader (.str "b") (.str "a"), .pop (-1)].foldl
    RefGL.step (abs ex1) =
      [(.str "__NAN__", [.str "__NAN__"]), (.str "a", [.str "a", .str "b"]), (.num 0, [.num 0])] := by decide +kernel

end GL
