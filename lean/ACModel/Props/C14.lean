import ACModel.Model.Select
import ACModel.Proofs.Sort
/-
  C14 — Selectors return the best-ranked, mutually uncorrelated features

  "`select` returns, per feature type, distinct input features ordered by decreasing association
  with the target, at most n_best per association measure, such that no two returned features of a
  type are associated with each other above thresh_corr. A feature is left out only if its measure
  is undefined or fails a threshold, it is too associated with a better-ranked returned feature, or
  n_best better features were already returned; the ranking uses chi2-based Cramer's V /
  Tschuprow's T, Kruskal-Wallis H, Spearman and Pearson values that equal independent
  recomputation, and X and y are not modified."

  Theorems about the decision logic (`ACModel/Model/Select.lean`), for every measure table,
  association function, threshold and `n_best`.  The numerical values of the measures are
  recomputed independently by the harness (partial).
-/

namespace C14
open Select

/-- the greedy filter keeps the order of the ranking -/
theorem greedy_sublist (assoc : String → String → Rat) (thresh : Rat) :
    ∀ (todo kept : List String), ∃ s, s.Sublist todo ∧ greedy assoc thresh todo kept = kept.reverse ++ s := by
  intro todo kept
  fun_induction greedy assoc thresh todo kept with
  | case1 kept => exact ⟨[], .slnil, (List.append_nil _).symm⟩
  -- case 2: `f` is too associated with a kept feature (`hany`) and is skipped; case 3: it is not, and is kept
  | case2 f rest kept hany ih => exact let ⟨s, hs, he⟩ := ih; ⟨s, hs.cons _, he⟩
  | case3 f rest kept hany ih =>
    exact let ⟨s, hs, he⟩ := ih; ⟨f :: s, hs.cons_cons _, by rw [he, List.reverse_cons, List.append_assoc]; rfl⟩

/-- what the filter returns was to be examined or had been kept (neither hypothesis is used) -/
theorem greedy_spec (assoc : String → String → Rat) (thresh : Rat) :
    ∀ (todo kept : List String),
      (∀ a ∈ kept, ∀ b ∈ kept, a ≠ b → assoc a b ≤ thresh ∨ assoc b a ≤ thresh) → True →
      ∀ x ∈ greedy assoc thresh todo kept, x ∈ todo ∨ x ∈ kept := by
  intro todo kept _ _ x hx
  obtain ⟨s, hs, he⟩ := greedy_sublist assoc thresh todo kept
  rw [he, List.mem_append, List.mem_reverse] at hx
  exact hx.symm.imp_left (hs.subset ·)

theorem greedy_sub (assoc : String → String → Rat) (thresh : Rat) (todo : List String) :
    ∀ x ∈ greedy assoc thresh todo [], x ∈ todo := by
  obtain ⟨s, hs, he⟩ := greedy_sublist assoc thresh todo []
  rw [he]
  exact fun x hx => hs.subset hx

theorem greedy_nodup (assoc : String → String → Rat) (thresh : Rat) :
    ∀ (todo kept : List String), (todo ++ kept).Nodup → (greedy assoc thresh todo kept).Nodup := by
  intro todo kept h
  obtain ⟨s, hs, he⟩ := greedy_sublist assoc thresh todo kept
  rw [he]
  have hsk : (s ++ kept).Nodup := (hs.append_right kept).nodup h
  have hp : (s ++ kept).Perm (kept.reverse ++ s) :=
    List.perm_append_comm.trans ((List.reverse_perm kept).append_right s).symm
  exact hp.nodup_iff.1 hsk

/-- **Mutually un-associated**: every feature kept by the greedy filter has association at most
    `thresh` with every feature kept *before* it. -/
theorem greedy_pairwise (assoc : String → String → Rat) (thresh : Rat) :
    ∀ (todo kept : List String),
      (kept.reverse.Pairwise (fun g f => assoc f g ≤ thresh)) →
      (greedy assoc thresh todo kept).Pairwise (fun g f => assoc f g ≤ thresh) := by
  intro todo kept h
  fun_induction greedy assoc thresh todo kept with
  | case1 kept => exact h
  | case2 f rest kept hany ih => exact ih h
  | case3 f rest kept hany ih =>
    refine ih ?_
    -- `f` joins the kept ones: by `hany` no `g` kept before has `thresh < assoc f g`
    rw [List.reverse_cons, List.pairwise_append]
    exact ⟨h, List.pairwise_singleton .., fun g hg x hx => List.mem_singleton.1 hx ▸ Rat.not_lt.1 fun hlt =>
      hany (List.any_eq_true.2 ⟨g, List.mem_reverse.1 hg, decide_eq_true hlt⟩)⟩

/-- **A feature is filtered out only because of a kept feature it is too associated with** (one
    kept before it, hence better ranked, though the statement does not say so). -/
theorem greedy_left_out (assoc : String → String → Rat) (thresh : Rat) :
    ∀ (todo kept : List String) (f : String), f ∈ todo → f ∉ greedy assoc thresh todo kept →
      ∃ g ∈ greedy assoc thresh todo kept, thresh < assoc f g := by
  have hkept (t k : List String) (y : String) (hy : y ∈ k) : y ∈ greedy assoc thresh t k := by
    obtain ⟨s, -, he⟩ := greedy_sublist assoc thresh t k
    rw [he]; exact List.mem_append_left _ (List.mem_reverse.2 hy)
  intro todo kept f hf hnot
  fun_induction greedy assoc thresh todo kept with
  | case1 => cases hf
  | case2 x rest kept hany ih =>
    rcases List.mem_cons.1 hf with rfl | hf'
    · obtain ⟨g, hg, hgt⟩ := List.any_eq_true.1 hany
      exact ⟨g, hkept rest kept g hg, of_decide_eq_true hgt⟩
    · exact ih hf' hnot
  | case3 x rest kept hany ih =>
    rcases List.mem_cons.1 hf with rfl | hf'
    · exact absurd (hkept rest _ f List.mem_cons_self) hnot
    · exact ih hf' hnot

/-- **At most `n_best` features are returned per measure.** -/
theorem select_le_nbest (feats : List Feat) (assoc : String → String → Rat) (thresh : Rat) (nBest : Nat) :
    (selectType feats assoc thresh nBest).length ≤ nBest :=
  List.length_take_le ..

/-- **Returned features are mutually un-associated** (association of the later with the earlier
    at most `thresh_corr`). -/
theorem select_pairwise (feats : List Feat) (assoc : String → String → Rat) (thresh : Rat) (nBest : Nat) :
    (selectType feats assoc thresh nBest).Pairwise (fun g f => assoc f g ≤ thresh) :=
  (greedy_pairwise assoc thresh _ [] .nil).sublist (List.take_sublist ..)

/-- descending: `x` goes behind the features whose measure is at least its own (so features with equal
    measures come out in the reverse of the input order) -/
theorem insertsDesc : InsSort.InsertsBy (fun x y : Feat => ¬ keyGe y.2 x.2 = true) insertDesc :=
  ⟨fun _ => rfl, fun x y t => by rw [insertDesc]; split <;> simp⟩

theorem sortDesc_eq_foldr : ∀ l, sortDesc l = l.foldr insertDesc []
  | [] => rfl
  | x :: t => congrArg (insertDesc x) (sortDesc_eq_foldr t)

theorem sortDesc_perm (l : List Feat) : (sortDesc l).Perm l := by
  rw [sortDesc_eq_foldr]; exact insertsDesc.foldr_perm l

/-- **Returned features are input features with a defined measure.** -/
theorem select_sub (feats : List Feat) (assoc : String → String → Rat) (thresh : Rat) (nBest : Nat) :
    ∀ x ∈ selectType feats assoc thresh nBest, ∃ v, (x, some v) ∈ feats := by
  intro x hx
  obtain ⟨f, hf, rfl⟩ := List.mem_map.1 (greedy_sub assoc thresh _ x (List.mem_of_mem_take hx))
  obtain ⟨hf1, hf2⟩ := List.mem_filter.1 hf
  obtain ⟨v, hv⟩ := Option.isSome_iff_exists.1 hf2
  exact ⟨v, hv ▸ (sortDesc_perm feats).mem_iff.1 hf1⟩

theorem keyGe_total (a b : Option Rat) : keyGe a b = false → keyGe b a = true := by
  cases a <;> cases b <;> simp [keyGe]
  intro h; exact Rat.le_of_lt (Rat.not_le.1 h)

theorem keyGe_trans (a b c : Option Rat) (h1 : keyGe a b = true) (h2 : keyGe b c = true) : keyGe a c = true := by
  cases c with
  | none => cases a <;> rfl
  | some z =>
    -- an undefined measure is not above a defined one: `b`, then `a`, are defined
    cases b with
    | none => cases h2
    | some y =>
      cases a with
      | none => cases h1
      | some x => exact decide_eq_true (Rat.le_trans (of_decide_eq_true h2) (of_decide_eq_true h1))

/-- the ranking is in decreasing order of the measure, undefined measures last -/
theorem sortDesc_sorted (l : List Feat) : (sortDesc l).Pairwise (fun a b => keyGe a.2 b.2 = true) := by
  rw [sortDesc_eq_foldr]
  exact insertsDesc.foldr_pairwise (s := fun a b : Feat => keyGe a.2 b.2 = true) (fun _ _ _ => keyGe_trans _ _ _)
    (fun _ _ h => keyGe_total _ _ (Bool.of_not_eq_true h)) (fun _ _ h => Classical.not_not.1 h) l

/-- **The returned features are in decreasing order of their association with the target**: the
    result is the list of names of a sub-list of the ranking, which is sorted by the measure. -/
theorem select_sorted (feats : List Feat) (assoc : String → String → Rat) (thresh : Rat) (nBest : Nat) :
    ∃ l : List Feat, l.Sublist (sortDesc feats) ∧ l.map (·.1) = selectType feats assoc thresh nBest ∧
      l.Pairwise (fun a b => keyGe a.2 b.2 = true) := by
  obtain ⟨s, hs, he⟩ := greedy_sublist assoc thresh (((sortDesc feats).filter (fun f => f.2.isSome)).map (·.1)) []
  obtain ⟨l', hl', hm⟩ := List.sublist_map_iff.1 ((List.take_sublist nBest s).trans hs)
  have hsub := hl'.trans List.filter_sublist
  exact ⟨l', hsub, by rw [selectType, he, ← hm]; rfl, (sortDesc_sorted feats).sublist hsub⟩

/-- no two features tie on the ranking measure (in particular at most one has an undefined one) -/
def NoTies (l : List Feat) : Prop :=
  ∀ a ∈ l, ∀ b ∈ l, a ≠ b → ¬ (keyGe a.2 b.2 = true ∧ keyGe b.2 a.2 = true)

theorem sorted_perm_unique : ∀ (l1 l2 : List Feat), l1.Perm l2 → NoTies l1 →
    l1.Pairwise (fun a b => keyGe a.2 b.2 = true) → l2.Pairwise (fun a b => keyGe a.2 b.2 = true) → l1 = l2 :=
  fun _ _ hp hnt h1 h2 => hp.eq_of_pairwise
    (fun a b ha hb hab hba => Classical.byContradiction fun e => hnt a ha b (hp.mem_iff.2 hb) e ⟨hab, hba⟩) h1 h2

/-- **The selection does not depend on the order in which the features (columns) are listed**,
    as long as no two of them tie on the ranking measure. -/
theorem select_perm_invariant (feats feats' : List Feat) (hp : feats.Perm feats') (hnt : NoTies feats)
    (assoc : String → String → Rat) (thresh : Rat) (nBest : Nat) :
    selectType feats assoc thresh nBest = selectType feats' assoc thresh nBest := by
  have hs : sortDesc feats = sortDesc feats' :=
    sorted_perm_unique _ _ (((sortDesc_perm feats).trans hp).trans (sortDesc_perm feats').symm)
      (fun a ha b hb => hnt a ((sortDesc_perm feats).mem_iff.1 ha) b ((sortDesc_perm feats).mem_iff.1 hb))
      (sortDesc_sorted feats) (sortDesc_sorted feats')
  rw [selectType, hs]; rfl

/-! ## Non-vacuity -/

private def assoc0 (a b : String) : Rat := if (a = "A" ∧ b = "B") ∨ (a = "B" ∧ b = "A") then 9/10 else 1/10
example : selectType [("C", some 1), ("A", some 3), ("B", some 2), ("D", none)] assoc0 (1/2) 5 = ["A", "C"] := by
  decide +kernel
example : selectType [("D", none), ("B", some 2), ("C", some 1), ("A", some 3)] assoc0 (1/2) 5 = ["A", "C"] := by
  decide +kernel

end C14
