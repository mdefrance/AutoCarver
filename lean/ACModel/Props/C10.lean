import ACModel.Proofs.Frame
/-
  C10 — Features are processed independently; parallel equals sequential

  "The fitted grouping and transform output of a feature do not depend on which other features are
  fitted alongside it, on the order in which features or DataFrame columns are listed, or on the
  interpreter's hash seed. Fitting or transforming with n_jobs>1 yields the same values_orders and
  outputs as n_jobs=1."

  Model (`featureLoop` below, an abstraction of its own: no theorem or check ties it to
  `Carve.carve` or to the pipelines): the per-feature loops of the carvers / discretizers are folds
  over the feature list with the shared dictionaries (`values_orders`, …) as state; `one f a` is
  what is computed for feature `f` from its own entry (`none` = the feature is removed).  The hash seed permutes the feature
  list (`list(set(features))`), a worker pool delivers the per-feature results in some order,
  keyed by feature name.  The theorems show that neither matters.  Worker scheduling, pickling and
  process start are runtime facts, observed by `harness/c10.py` (partial).
-/

namespace C10
open Disc

/-- the per-feature loop over a shared dictionary -/
def featureLoop {α : Type} (one : String → α → Option α) : List String → List (String × α) → List (String × α)
  | [], st => st
  | f :: fs, st =>
    match aget? st f with
    | none => featureLoop one fs st
    | some a =>
      match one f a with
      | some a' => featureLoop one fs (aset st f a')
      | none => featureLoop one fs (aerase st f)

theorem featureLoop_cons {α : Type} (one : String → α → Option α) (f : String) (fs : List String)
    (st : List (String × α)) (g : String) :
    ∃ st', featureLoop one (f :: fs) st = featureLoop one fs st' ∧
      aget? st' g = if f = g then (aget? st f).bind (one f) else aget? st g := by
  rw [featureLoop]
  cases ha : aget? st f with
  | none =>
    refine ⟨st, rfl, ?_⟩
    split
    · rename_i e; exact e ▸ ha
    · rfl
  | some a =>
    simp only [Option.bind_some]
    cases one f a with
    | some a' => exact ⟨aset st f a', rfl, aget?_aset ..⟩
    | none => exact ⟨aerase st f, rfl, aget?_aerase ..⟩

/-- **Frame condition**: a feature that is not processed keeps its entry. -/
theorem featureLoop_other {α : Type} (one : String → α → Option α) (g : String) :
    ∀ (fs : List String) (st : List (String × α)), g ∉ fs → aget? (featureLoop one fs st) g = aget? st g := by
  intro fs
  induction fs with
  | nil => intro st _; rfl
  | cons f rest ih =>
    intro st hg
    obtain ⟨st', e, h⟩ := featureLoop_cons one f rest st g
    rw [e, ih st' fun h => hg (List.mem_cons_of_mem _ h), h, if_neg fun (e : f = g) => hg (e ▸ List.mem_cons_self)]

/-- **Pointwise**: what the loop leaves for a processed feature depends only on that feature's own
    entry — not on which other features are processed, nor on their order. -/
theorem featureLoop_pointwise {α : Type} (one : String → α → Option α) (f : String) :
    ∀ (fs : List String) (st : List (String × α)), fs.Nodup → f ∈ fs →
      aget? (featureLoop one fs st) f = (aget? st f).bind (one f) := by
  intro fs
  induction fs with
  | nil => intro st _ h; cases h
  | cons x rest ih =>
    intro st hn hf
    rw [List.nodup_cons] at hn
    obtain ⟨st', e, h⟩ := featureLoop_cons one x rest st f
    rw [e]
    by_cases hx : x = f
    · subst hx
      rw [featureLoop_other one x rest st' hn.1, h, if_pos rfl]
    · rw [ih st' hn.2 ((List.mem_cons.1 hf).resolve_left (Ne.symm hx)), h, if_neg hx]

/-- **Any order of the feature list (any hash seed) gives the same dictionary**, entry by entry. -/
theorem featureLoop_perm {α : Type} (one : String → α → Option α) (fs fs' : List String) (st : List (String × α))
    (hn : fs.Nodup) (hp : fs.Perm fs') (g : String) :
    aget? (featureLoop one fs st) g = aget? (featureLoop one fs' st) g := by
  have hn' : fs'.Nodup := hp.nodup_iff.1 hn
  by_cases hg : g ∈ fs
  · rw [featureLoop_pointwise one g fs st hn hg, featureLoop_pointwise one g fs' st hn' (hp.mem_iff.1 hg)]
  · have hg' : g ∉ fs' := fun h => hg (hp.mem_iff.2 h)
    rw [featureLoop_other one g fs st hg, featureLoop_other one g fs' st hg']

/-- **Subset independence**: fitting `f` alone or together with any other features gives the same
    entry for `f`. -/
theorem featureLoop_subset {α : Type} (one : String → α → Option α) (f : String) (fs : List String)
    (st : List (String × α)) (hn : fs.Nodup) (hf : f ∈ fs) :
    aget? (featureLoop one fs st) f = aget? (featureLoop one [f] st) f := by
  rw [featureLoop_pointwise one f fs st hn hf, featureLoop_pointwise one f [f] st (by simp) (by simp)]

/-- collecting the results of a worker pool: `values_orders.update({feature: order for …})` -/
def updateAll {α : Type} (st : List (String × α)) (results : List (String × α)) : List (String × α) :=
  results.foldl (fun acc r => aset acc r.1 r.2) st

theorem updateAll_get {α : Type} : ∀ (results : List (String × α)) (st : List (String × α)) (g : String),
    (results.map (·.1)).Nodup →
    aget? (updateAll st results) g = (match results.find? (fun r => r.1 == g) with
      | some r => some r.2
      | none => aget? st g) := by
  intro results st g hn
  rw [updateAll, aget?_foldl_aset_pairs results st g hn, aget?_eq_find?]
  cases results.find? (fun r => r.1 == g) <;> rfl

/-- **Results keyed by name may arrive in any completion order** (`imap_unordered`): the
    dictionary is the same. -/
theorem updateAll_perm {α : Type} (st : List (String × α)) (r r' : List (String × α))
    (hn : (r.map (·.1)).Nodup) (hp : r.Perm r') (g : String) :
    aget? (updateAll st r) g = aget? (updateAll st r') g := by
  rw [updateAll, updateAll, aget?_foldl_aset_pairs r st g hn,
    aget?_foldl_aset_pairs r' st g ((hp.map _).nodup_iff.1 hn), aget?_perm hn hp]

/-- two fitted states agree on everything `transform` reads for the column named `n` -/
structure AgreeOn (s s' : Disc) (n : String) : Prop where
  quant : n ∈ s.quant ↔ n ∈ s'.quant
  qual : n ∈ s.qual ↔ n ∈ s'.qual
  order : aget? s.orders n = aget? s'.orders n
  table : aget? s.lpv n = aget? s'.lpv n
  nan : s.strNan = s'.strNan
  dflt : s.strDefault = s'.strDefault
  fd : s.featDropna.find? (fun fd => fd.1 = n) = s'.featDropna.find? (fun fd => fd.1 = n)

theorem AgreeOn.alike {s s' : Disc} {n : String} (h : AgreeOn s s' n) : MultiLemmas.Alike s s' n n :=
  ⟨h.quant, h.qual, h.order, h.table, h.nan, h.dflt, congrArg _ h.fd⟩

theorem colTransform_agree {s s' : Disc} {n : String} (h : AgreeOn s s' n) (c : Col) :
    colTransform s n c = colTransform s' n c := by
  have hq : qUpd s n = qUpd s' n := by funext c; unfold qUpd; rw [h.order, h.table, h.nan]
  have hl : lUpd s n = lUpd s' n := by funext c; unfold lUpd; rw [h.order, h.table, h.nan, h.dflt]
  unfold colTransform
  simp only [h.quant, h.qual, hq, hl]
  -- what is left differs in the missing-value step alone, under the two binds
  exact congrArg _ (funext fun c1 => congrArg _ (funext h.alike.nan_eq))

/-- **The transform output of a feature depends on that feature alone.**  Two fitted objects that
    agree on feature `n` — whatever other features each of them holds, in whatever order — give the
    same output column `n` on any two frames that agree on column `n`, whatever their other columns. -/
theorem transform_column_local (s s' : Disc) (hs : s.Shape) (hs' : s'.Shape) (n : String) (h : AgreeOn s s' n)
    (x0 x out x0' x' out' : Frame)
    (hc : s.castFeatures x0 = .ok x) (ht : s.transform x0 = .ok out)
    (hc' : s'.castFeatures x0' = .ok x') (ht' : s'.transform x0' = .ok out')
    (hcol : aget? x n = aget? x' n) : aget? out n = aget? out' n := by
  obtain ⟨_, h1⟩ := FrameLemmas.transform_spec s hs x0 x out hc ht
  obtain ⟨_, h2⟩ := FrameLemmas.transform_spec s' hs' x0' x' out' hc' ht'
  cases hx : aget? x n with
  | none => rw [(h1 n).2 hx, (h2 n).2 (hcol ▸ hx)]
  | some c =>
    obtain ⟨c1, e1, o1⟩ := (h1 n).1 c hx
    obtain ⟨c2, e2, o2⟩ := (h2 n).1 c (hcol ▸ hx)
    rw [colTransform_agree h c, e2] at e1
    injection e1 with e1
    rw [o1, o2, e1]

/-! ## Non-vacuity -/

example : featureLoop (fun _ (a : Nat) => if a = 0 then none else some (a + 1)) ["b", "a"]
    [("a", 1), ("b", 0), ("c", 5)] =
    [("a", 2), ("c", 5)] := by decide +kernel

end C10
