import ACModel.Props.C01
import ACModel.Proofs.Merge
import ACModel.Proofs.Pipeline
import ACModel.Proofs.GroupedList
/-
  C03 — Grouping preserves each feature's order (contiguity, monotone transform)

  "Every fitted group is a contiguous run of the feature's natural order: an interval of the real
  line for quantitative features, consecutive values of the user-supplied ranking for ordinal
  features, and consecutive modalities in training target-rate order for categorical features.
  Consequently, with output_dtype='float', transform is a non-decreasing step function of a
  quantitative value over the whole real line (right-closed intervals, the last one unbounded) and
  of an ordinal value's rank."

  Contiguity of what the carvers do is `C01.consecutiveCombinations_iff` (every candidate is a cut
  of the base order into consecutive runs) and `contiguous_trans` (cuts of cuts are cuts); of what
  the base discretizers do, `ordinal_groups_contiguous` / `ordinal_groups_cover` (the merging loop
  cuts the ranking) and `catSort_lst` / `cat_leaders_in_rate_order` (the categorical leaders come in
  the order of their training rates, `str_nan` last).
  The transform half is about `groupIdx`, the position of the first leader `≥ x`, which is what
  `select(x <= leader)` picks (`Disc.selectPure` looks the same leader up with `find?`; that link is not stated).
-/

namespace C03
open Disc C01

/-- position of the group a number falls in (not `RowLemmas.groupIdx`, the index of the group holding a modality) -/
def groupIdx (leaders : List Val) (x : Val) : Nat := leaders.findIdx (fun l => leVal x l)

theorem leVal_trans {a b c : Val} (h1 : leVal a b = true) (h2 : leVal b c = true) : leVal a c = true := by
  cases a <;> cases b <;> cases c <;> simp_all [leVal]
  exact Rat.le_trans h1 h2

theorem leVal_antisymm {a b : Val} (h1 : leVal a b = true) (h2 : leVal b a = true) : a = b := by
  cases a <;> cases b <;> simp_all [leVal]
  exact Rat.le_antisymm h1 h2

/-- **Monotone step function.** If `x ≤ x'` the group of `x` does not come after the group of
    `x'` — for *any* list of leaders, over all numbers (not only training values). -/
theorem groupIdx_mono (leaders : List Val) {x x' : Val} (h : leVal x x' = true) :
    groupIdx leaders x ≤ groupIdx leaders x' :=
  List.findIdx_le_findIdx fun _ _ h' => leVal_trans h h'

/-- strictly increasing leaders (numbers, `inf` last) -/
def StrictAsc : List Val → Prop
  | a :: b :: t => (leVal a b = true ∧ a ≠ b) ∧ StrictAsc (b :: t)
  | _ => True

/-- `a < b` on leaders -/
abbrev LtVal (a b : Val) : Prop := leVal a b = true ∧ a ≠ b

theorem LtVal.trans {a b c : Val} (h1 : LtVal a b) (h2 : LtVal b c) : LtVal a c :=
  ⟨leVal_trans h1.1 h2.1, fun e => h2.2 (leVal_antisymm h2.1 (e ▸ h1.1))⟩

theorem LtVal.not_le {a b : Val} (h : LtVal a b) : leVal b a = false :=
  Bool.eq_false_iff.2 fun h' => h.2 (leVal_antisymm h.1 h')

theorem strictAsc_iff_pairwise : ∀ {l : List Val}, StrictAsc l ↔ l.Pairwise LtVal
  | [] => by simp [StrictAsc]
  | [_] => by simp [StrictAsc]
  | a :: b :: t => by
    rw [StrictAsc, strictAsc_iff_pairwise, List.pairwise_cons (a := a)]
    refine and_congr_left fun hp => ⟨fun hab c hc => ?_, fun h => h b List.mem_cons_self⟩
    rcases List.mem_cons.1 hc with rfl | hc
    · exact hab
    · exact LtVal.trans hab ((List.pairwise_cons.1 hp).1 c hc)

theorem groupIdx_eq_iff {leaders : List Val} {x : Val} {i : Nat} (hi : i < leaders.length) :
    groupIdx leaders x = i ↔
      leVal x leaders[i] = true ∧ ∀ j (hj : j < i), leVal x (leaders[j]'(Nat.lt_trans hj hi)) = false :=
  List.findIdx_eq hi

/-- **Right-closed intervals.** `x` falls in group `i` only if `x ≤ leaders[i]` and no earlier leader
    is `≥ x` (and exactly then: `groupIdx_eq_iff`); with strictly increasing leaders that is
    `leaders[i-1] < x ≤ leaders[i]`. -/
theorem groupIdx_interval (leaders : List Val) (x : Val) (i : Nat) (hi : i < leaders.length)
    (h : groupIdx leaders x = i) :
    leVal x leaders[i] = true ∧ ∀ j (hj : j < i), leVal x (leaders[j]'(by omega)) = false :=
  (groupIdx_eq_iff hi).1 h

/-- a boundary belongs to the interval it closes: `T(b_i) = i` -/
theorem groupIdx_boundary (leaders : List Val) (hs : StrictAsc leaders) (i : Nat) (hi : i < leaders.length)
    (hnum : ∀ l ∈ leaders, leVal l l = true) :
    groupIdx leaders leaders[i] = i :=
  (groupIdx_eq_iff hi).2 ⟨hnum _ (List.getElem_mem hi), fun j hj =>
    (List.pairwise_iff_getElem.1 (strictAsc_iff_pairwise.1 hs) j i (Nat.lt_trans hj hi) hi hj).not_le⟩

/-- the last interval is unbounded: with `inf` last, anything falls at or before the last group -/
theorem groupIdx_lt_length (leaders : List Val) (x : Val) (hx : ∀ s, x ≠ .str s) (hinf : Val.inf ∈ leaders) :
    groupIdx leaders x < leaders.length := by
  unfold groupIdx
  apply List.findIdx_lt_length_of_exists
  refine ⟨.inf, hinf, ?_⟩
  cases x <;> simp_all [leVal]

/-- grouping the groups of a cut (consecutively) gives a cut of the original order -/
theorem contiguous_trans {α : Type} (order : List α) (c1 : List (List α)) (c2 : List (List (List α)))
    (h1 : IsCut order c1) (h2 : IsCut c1 c2) : IsCut order (c2.map List.flatten) := by
  refine ⟨by rw [← h1.1, ← h2.1, List.flatten_flatten], fun g hg e => ?_⟩
  obtain ⟨gg, hgg, rfl⟩ := List.mem_map.1 hg
  -- a group of `c2` is not empty, and its first member, a group of `c1`, is not empty either
  obtain ⟨x, t, rfl⟩ := List.exists_cons_of_ne_nil (h2.2 gg hgg)
  exact h1.2 x (h2.1 ▸ List.mem_flatten.2 ⟨_, hgg, List.mem_cons_self⟩) (List.append_eq_nil_iff.1 e).1

/-- **The groups built by `find_common_modalities` are, in order, consecutive segments of the
    ranking** (each group a permutation of its segment: the code lists the discarded members first),
    whatever `find_closest_modality` answers (its float comparisons are not unfolded: only "previous
    or next" is used).  This covers ordinal features and the rare quantile buckets merged by
    `QuantitativeDiscretizer` (there the ranking is the list of interval labels). -/
theorem ordinal_groups_contiguous {α : Type} (labels : List α) (stats : List BaseDisc.Stat)
    (lenDf : Nat) (minFreq : Rat) (hlen : labels.length = stats.length) :
    Merge.RunsOf (BaseDisc.findCommonModalities labels stats lenDf minFreq) labels := by
  obtain ⟨ls, rfl, rfl⟩ := Merge.exists_unzip hlen
  obtain ⟨zs, hinv, he, -⟩ := Merge.findCommonModalities_spec (lenDf := lenDf) (minFreq := minFreq)
    (Inv := fun zs => Merge.RunsOf (zs.map (·.1)) (ls.map (·.1))) (fun h => h.runsOf) ls
    (by simpa [Function.comp_def] using Merge.runsOf_singletons (ls.map (·.1)))
  rw [he]; exact hinv

/-- no value is lost or duplicated by the merging -/
theorem ordinal_groups_cover {α : Type} (labels : List α) (stats : List BaseDisc.Stat) (lenDf : Nat) (minFreq : Rat)
    (hlen : labels.length = stats.length) :
    (BaseDisc.findCommonModalities labels stats lenDf minFreq).flatten.Perm labels :=
  Merge.runsOf_flatten_perm _ _ (ordinal_groups_contiguous labels stats lenDf minFreq hlen)

/-- (`o` with its equation `ho`, so that the one `catSort_lst` gives can be fed in) -/
theorem moveLast_sorted {l : List Val} {n : Val} {key : Val → Rat} (hnd : l.Nodup)
    (hs : l.Pairwise (fun a b => key a ≤ key b))
    {o : List Val} (ho : o = if n ∈ l then l.filter (· != n) ++ [n] else l) :
    o.Nodup ∧ ((o.filter (· != n)).map key).Pairwise (· ≤ ·) ∧ (n ∈ o → o.getLast? = some n) := by
  have hsub : ((l.filter (· != n)).map key).Pairwise (· ≤ ·) :=
    List.pairwise_map.2 (hs.sublist List.filter_sublist)
  subst ho
  split
  · refine ⟨List.nodup_append.2 ⟨hnd.sublist List.filter_sublist, by simp, fun a ha b hb => ?_⟩, ?_, fun _ => by simp⟩
    · obtain rfl := List.mem_singleton.1 hb
      simpa using (List.mem_filter.1 ha).2
    · simpa using hsub
  · rename_i hn
    exact ⟨hnd, hsub, fun h => absurd h hn⟩

open Pipeline PipelineLemmas

/-- the leaders `catSort` fits: the observed modalities in the stable order of their rates,
    `str_nan` moved to the end -/
theorem catSort_lst {g2 : GL} {rows3 : Rows} {toGroup : List Val} {strNan strDefault : String} {r : CatResult}
    (hwf : g2.WF) (h : catSort g2 rows3 toGroup strNan strDefault = .ok r) {l : List Val}
    (hl : l = sortByKey (rateOf rows3) (GL.isort strLeVal (uniques rows3))) :
    l.Nodup ∧ l.Pairwise (fun a b => rateOf rows3 a ≤ rateOf rows3 b) ∧
      r.order.lst = if Val.str strNan ∈ l then l.filter (· != Val.str strNan) ++ [Val.str strNan] else l := by
  have hnd : l.Nodup := hl ▸ nodup_sortByKey _ _ (GL.nodup_isort (nodup_uniques rows3))
  have hs : l.Pairwise (fun a b => rateOf rows3 a ≤ rateOf rows3 b) := hl ▸ sorted_sortByKey (rateOf rows3) _
  refine ⟨hnd, hs, ?_⟩
  -- `catSort` is its own assertion, then `sort_by`, which returns (`g3`) or refuses
  unfold catSort at h
  dsimp only at h
  rw [← hl] at h
  split at h
  · cases h
  · split at h
    · rename_i g3 hsort
      cases h
      -- `sort_by` installs exactly the requested order, which is duplicate free
      rw [(GL.sortBy_eq hwf.wf' (moveLast_sorted hnd hs rfl).1 hsort).1, GL.reorder]
    · cases h

/-- **The closing `sort_by` of `CategoricalDiscretizer.fit` orders the modalities by non-decreasing
    training target rate, the missing-value modality last** — for every sample and every well-formed
    order handed to it (the fitted list itself: `catSort_lst`; that `catGroupRare` hands on a
    well-formed order is not proved). -/
theorem cat_leaders_in_rate_order (g2 : GL) (rows3 : Rows) (toGroup : List Val) (strNan strDefault : String)
    (r : CatResult) (hwf : g2.WF) (h : catSort g2 rows3 toGroup strNan strDefault = .ok r) :
    ((r.order.lst.filter (· != Val.str strNan)).map (rateOf rows3)).Pairwise (· ≤ ·) ∧
    (Val.str strNan ∈ r.order.lst → r.order.lst.getLast? = some (Val.str strNan)) := by
  obtain ⟨hnd, hs, ho⟩ := catSort_lst hwf h rfl
  exact (moveLast_sorted hnd hs ho).2

/-! ## Non-vacuity -/

example : StrictAsc [.num 1, .num 5, .inf] := by
  refine ⟨⟨by decide, by decide⟩, ⟨by decide, by decide⟩, trivial⟩
example : groupIdx [.num 1, .num 5, .inf] (.num 5) = 1 := by decide +kernel
example : groupIdx [.num 1, .num 5, .inf] (.num (11/2)) = 2 := by decide +kernel

-- a ranking of four modalities whose two rare ends are merged into their neighbours
example : BaseDisc.findCommonModalities ["a", "b", "c", "d"]
    [⟨1, some 0⟩, ⟨10, some 5⟩, ⟨10, some 2⟩, ⟨1, some 1⟩] 22 (1/10)
    = [["a", "b"], ["d", "c"]] := by decide +kernel

end C03
