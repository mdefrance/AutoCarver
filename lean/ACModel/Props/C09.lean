import ACModel.Proofs.Quantiles
import ACModel.Proofs.Merge
import ACModel.Proofs.Pipeline
/-
  C09 — Base discretization honours min_freq and keeps its granularity

  "After a Discretizer (or its quantitative/qualitative parts) is fitted, every non-missing bucket of
  an ordinal feature holds at least min_freq of the training rows and every bucket of a
  quantitative feature at least min_freq/2 (unless a single bucket remains); a categorical value is
  in the default group iff it is rarer than min_freq, and missing values always remain a separate
  modality. ContinuousDiscretizer's boundaries are strictly increasing observed training values
  followed by +inf, every value at least as frequent as min_freq is a boundary, and no bucket free
  of such values holds more than 2.5*min_freq of the rows."

  Model: `ACModel/Model/BaseDisc.lean`; `not_hasRare` and the `cat_*` theorems at the end are about the pipelines of
  `ACModel/Model/Pipeline.lean`, `quant_buckets_frequent` about the merging loop at the threshold they use.  All theorems hold for arbitrary values of the
  float kernels (`lowerIdx`, `newQ`, `closerNext` are never unfolded).
-/

namespace C09
open BaseDisc

def Sorted (l : List Rat) : Prop := l.Pairwise (· ≤ ·)
def StrictSorted (l : List Rat) : Prop := l.Pairwise (· < ·)

/-- **Boundaries are strictly increasing** (repaired code; without the deduplication they are only
    non-decreasing: `findQuantiles_sorted_raw`). -/
theorem findQuantiles_strict (h : Hist) (lenDf q : Nat) : StrictSorted (findQuantiles h lenDf q true) :=
  strictSorted_dedupSorted (sorted_sortRats _)

theorem findQuantiles_sorted_raw (h : Hist) (lenDf q : Nat) : Sorted (findQuantiles h lenDf q false) :=
  sorted_sortRats _

/-- witness that the unrepaired code could return a duplicated boundary (given suitable kernel
    values, which numpy does produce on tied data): a sorted list may contain duplicates -/
example : Sorted [1, 4, 4, 7] ∧ ¬ StrictSorted [1, 4, 4, 7] := by
  unfold Sorted StrictSorted
  constructor
  · decide +kernel
  · decide +kernel

/-- **Every boundary is an observed training value.** -/
theorem findQuantiles_observed (h : Hist) (lenDf q : Nat) (dedup : Bool) {v : Rat}
    (hv : v ∈ findQuantiles h lenDf q dedup) : v ∈ h.map (·.1) :=
  rawQuantiles_observed (mem_findQuantiles.1 hv)

/-- **Every value whose count reaches `len/q` is a boundary** (`q = round(1/min_freq)`).
    The property asks this for every value at least as frequent as `min_freq`; the two coincide
    exactly when `1/q ≤ min_freq`, see `C09_frequent_full`. -/
theorem frequent_is_boundary (h : Hist) (lenDf q : Nat) (dedup : Bool) {v : Rat} {c : Nat}
    (hm : (v, c) ∈ h) (hf : isFrequent lenDf q c = true) : v ∈ findQuantiles h lenDf q dedup := by
  rw [mem_findQuantiles, rawQuantiles, if_pos (List.any_eq_true.2 ⟨(v, c), hm, hf⟩)]
  exact List.mem_append_right _ (List.mem_map.2 ⟨(v, c), List.mem_filter.2 ⟨hm, hf⟩, rfl⟩)

/-- Full statement of the property's clause, in terms of `min_freq` itself. -/
def C09_frequent_full : Prop :=
  ∀ (h : Hist) (lenDf q : Nat) (minFreq : Rat) (v : Rat) (c : Nat),
    -- q = round(1/min_freq): here only |1/min_freq - q| ≤ 1/2 is needed
    (minFreq * (2 * q - 1) ≤ 2 ∧ 2 ≤ minFreq * (2 * q + 1)) → 0 < lenDf →
    (v, c) ∈ h → minFreq * (lenDf : Nat) ≤ (c : Nat) → v ∈ findQuantiles h lenDf q

/-- what is proved: whenever `1/q ≤ min_freq` (e.g. `1/min_freq` an integer, or rounded up) -/
theorem frequent_is_boundary_partial (h : Hist) (lenDf q : Nat) (minFreq : Rat) (v : Rat) (c : Nat)
    (hq : 1 ≤ minFreq * (q : Nat)) (hm : (v, c) ∈ h) (hc : minFreq * (lenDf : Nat) ≤ (c : Nat)) (hq0 : 0 < q) :
    v ∈ findQuantiles h lenDf q := by
  refine frequent_is_boundary h lenDf q true hm (decide_eq_true (Rat.natCast_le_natCast.1 ?_))
  -- lenDf ≤ minFreq·q·lenDf = minFreq·lenDf·q ≤ c·q
  have h1 := Rat.mul_le_mul_of_nonneg_right hq (Rat.natCast_nonneg (a := lenDf))
  have h2 := Rat.mul_le_mul_of_nonneg_right hc (Rat.natCast_nonneg (a := q))
  rw [Rat.one_mul, Rat.mul_assoc, Rat.mul_comm ((q : Nat) : Rat), ← Rat.mul_assoc] at h1
  rw [Rat.natCast_mul]
  exact Rat.le_trans h1 h2

/-- The full statement asks more than the code's test grants: `min_freq = 0.3` gives `q = 3`, and a
    value holding 31 % of the rows is not over-represented (`31·3 < 100`), so it is a boundary only if a
    quantile happens to fall on it (observed not to: recorded as known finding). -/
theorem isFrequent_counterexample : isFrequent 100 3 31 = false ∧ (3 : Rat) / 10 * 100 ≤ 31 := by
  constructor
  · decide
  · decide +kernel

/-- **Rare buckets are merged only with the previous or the next one** — whatever the target
    rates and frequencies (the float kernel is not unfolded). -/
theorem closest_adjacent (idx : Nat) (stats : List Stat) (lenDf : Nat) (minFreq : Rat)
    (hidx : idx < stats.length) (hlen : 2 ≤ stats.length) :
    closest idx stats lenDf minFreq < stats.length ∧
    (closest idx stats lenDf minFreq + 1 = idx ∨ closest idx stats lenDf minFreq = idx + 1) :=
  Merge.closest_adjacent lenDf minFreq hidx hlen

/-- each iteration removes exactly one modality (so the loop terminates: the number of
    modalities is a sufficient fuel) -/
theorem mergeStep_length {α : Type} {groups groups' : List (List α)} {stats stats' : List Stat} {lenDf : Nat}
    {minFreq : Rat} (hlen : groups.length = stats.length)
    (h : mergeStep groups stats lenDf minFreq = some (groups', stats')) :
    groups'.length + 1 = groups.length ∧ stats'.length + 1 = stats.length := by
  obtain ⟨zs, rfl, rfl⟩ := Merge.exists_unzip hlen
  obtain ⟨-, e⟩ | ⟨zs', hst, e⟩ := Merge.mergeStep_spec zs lenDf minFreq <;> cases e.symm.trans h
  simpa using hst.length

/-- when the loop stops by itself, every modality reaches `min_freq` or a single one remains -/
theorem mergeStep_none {α : Type} {groups : List (List α)} {stats : List Stat} {lenDf : Nat} {minFreq : Rat}
    (h : mergeStep groups stats lenDf minFreq = none) (hlen : groups.length = stats.length) :
    stats.length ≤ 1 ∨ ∀ s ∈ stats, minFreq ≤ (((s.n : Nat) : Rat) / (lenDf : Nat)) := by
  obtain ⟨zs, rfl, rfl⟩ := Merge.exists_unzip hlen
  obtain ⟨hd, -⟩ | ⟨_, -, e⟩ := Merge.mergeStep_spec zs lenDf minFreq
  · exact hd
  · cases e.symm.trans h

/-- **After `find_common_modalities` every bucket holds at least `min_freq` of the rows, or a
    single bucket remains**, for the loop run with any fuel of at least the number of modalities less one. -/
theorem mergeLoop_result {α : Type} : ∀ (fuel : Nat) (groups : List (List α)) (stats : List Stat) (lenDf : Nat)
    (minFreq : Rat), groups.length = stats.length → stats.length ≤ fuel + 1 →
    (mergeLoop fuel groups stats lenDf minFreq).1.length = (mergeLoop fuel groups stats lenDf minFreq).2.length ∧
    ((mergeLoop fuel groups stats lenDf minFreq).2.length ≤ 1 ∨
      ∀ s ∈ (mergeLoop fuel groups stats lenDf minFreq).2, minFreq ≤ (((s.n : Nat) : Rat) / (lenDf : Nat))) := by
  intro fuel groups stats lenDf minFreq hlen hf
  obtain ⟨zs, rfl, rfl⟩ := Merge.exists_unzip hlen
  obtain ⟨zs', -, he, hd⟩ := Merge.mergeLoop_spec (lenDf := lenDf) (minFreq := minFreq) (Inv := fun _ => True)
    (fun _ _ => trivial) fuel zs trivial
  rw [he]
  exact ⟨by simp, hd (by simpa using hf)⟩

/-- with the fuel `find_common_modalities` gives the loop, the number of labels -/
theorem findCommonModalities_result {α : Type} (labels : List α) (stats : List Stat) (lenDf : Nat) (minFreq : Rat)
    (hlen : labels.length = stats.length) :
    (mergeLoop labels.length (labels.map (fun l => [l])) stats lenDf minFreq).2.length ≤ 1 ∨
      ∀ s ∈ (mergeLoop labels.length (labels.map (fun l => [l])) stats lenDf minFreq).2,
        minFreq ≤ (((s.n : Nat) : Rat) / (lenDf : Nat)) :=
  (mergeLoop_result labels.length _ stats lenDf minFreq (by simpa using hlen) (by omega)).2

/-- **Every bucket left by `find_common_modalities` holds at least `min_freq` of the rows, counted on
    its own members** (or a single bucket remains): the statistics the loop maintains are the sums
    of the members' rows. -/
theorem ordinal_groups_frequent {α : Type} (cnt : α → Nat) (labels : List α) (stats : List Stat) (lenDf : Nat)
    (minFreq : Rat) (hinit : stats.map (·.n) = labels.map cnt) :
    (findCommonModalities labels stats lenDf minFreq).length ≤ 1 ∨
      ∀ g ∈ findCommonModalities labels stats lenDf minFreq,
        minFreq ≤ ((((g.map cnt).sum : Nat) : Rat) / (lenDf : Nat)) := by
  obtain ⟨ls, rfl, rfl⟩ := Merge.exists_unzip (by simpa using (congrArg List.length hinit).symm)
  rw [List.map_map, List.map_map] at hinit
  have h0 := List.map_inj_left.1 hinit
  -- the rows of a group are the rows of its members
  obtain ⟨zs, hinv, he, hd⟩ := Merge.findCommonModalities_forall (lenDf := lenDf) (minFreq := minFreq)
    (R := fun g s => s.n = (g.map cnt).sum) (fun g s gd sd h1 h2 => by
      simp only [Stat.add, List.map_append, List.sum_append_nat]; omega)
    ls fun q hq => (h0 q hq).trans (Nat.add_zero _).symm
  rw [he]
  refine hd.imp (fun h1 => by rwa [List.length_map] at h1 ⊢) fun hall g hg => ?_
  obtain ⟨p, hp, rfl⟩ := List.mem_map.1 hg
  rw [← hinv p hp]
  exact hall p.2 (List.mem_map_of_mem hp)

/-- the merging loop never looks at the labels: relabelling commutes with it (so the statement above,
    with each label paired with its own statistics, applies to any ranking, duplicates included) -/
theorem findCommonModalities_map {α β : Type} (φ : α → β) (labels : List α) (stats : List Stat) (lenDf : Nat)
    (minFreq : Rat) :
    findCommonModalities (labels.map φ) stats lenDf minFreq =
      (findCommonModalities labels stats lenDf minFreq).map (List.map φ) := by
  have e : (labels.map φ).map (fun l => [l]) = (labels.map fun l => [l]).map (List.map φ) := by
    rw [List.map_map, List.map_map]; rfl
  rw [findCommonModalities, findCommonModalities, List.length_map, e, Merge.mergeLoop_map]

/-- for *any* ranking `labels` with statistics `stats`: every final bucket's rows (the sum
    over the positions it gathers) reach `min_freq`, or one bucket remains -/
theorem ordinal_buckets_frequent {α : Type} (labels : List α) (stats : List Stat) (lenDf : Nat) (minFreq : Rat)
    (hlen : labels.length = stats.length) :
    let res := findCommonModalities (labels.zip stats) stats lenDf minFreq
    (findCommonModalities labels stats lenDf minFreq) = res.map (List.map Prod.fst) ∧
    (res.length ≤ 1 ∨ ∀ g ∈ res, minFreq ≤ ((((g.map (fun p => p.2.n)).sum : Nat) : Rat) / (lenDf : Nat))) := by
  intro res
  constructor
  · have := findCommonModalities_map (Prod.fst : α × Stat → α) (labels.zip stats) stats lenDf minFreq
    rw [← this]
    congr 1
    rw [List.map_fst_zip]; omega
  · apply ordinal_groups_frequent (fun p : α × Stat => p.2.n)
    have : (labels.zip stats).map (fun p => p.2.n) = (List.map Prod.snd (labels.zip stats)).map (·.n) := by simp
    rw [this, List.map_snd_zip]; omega

/-- `QuantitativeDiscretizer`: a feature that is *not* handed to the merging loop has no bucket at
    or below `min_freq / 2` (and no missing value) -/
theorem not_hasRare (stats : List Stat) (nNan lenDf : Nat) (minFreq : Rat)
    (h : Pipeline.hasRare stats nNan lenDf minFreq = false) :
    nNan = 0 ∧ ∀ s ∈ stats, minFreq / 2 < (((s.n : Nat) : Rat) / (lenDf : Nat)) := by
  simpa only [Pipeline.hasRare, Bool.or_eq_false_iff, decide_eq_false_iff_not, Nat.not_lt, Nat.le_zero_eq,
    List.any_eq_false, decide_eq_true_eq, Rat.not_le] using h

/-- The merging loop at the threshold `min_freq / 2`, the one `quantOrderQ` passes to it for a feature it
    hands over, returns buckets of interval labels holding at least `min_freq / 2` of the rows each, or a
    single bucket (`ordinal_buckets_frequent` at that threshold; the statement does not mention `quantOrderQ`). -/
theorem quant_buckets_frequent (labels : List String) (stats : List Stat) (lenDf : Nat) (minFreq : Rat)
    (hlen : labels.length = stats.length) :
    let res := findCommonModalities (labels.zip stats) stats lenDf (minFreq / 2)
    res.length ≤ 1 ∨ ∀ g ∈ res, minFreq / 2 ≤ ((((g.map (fun p => p.2.n)).sum : Nat) : Rat) / (lenDf : Nat)) :=
  (ordinal_buckets_frequent labels stats lenDf (minFreq / 2) hlen).2

theorem mem_catToGroup {g1 : GL} {rows2 : Pipeline.Rows} {minFreq : Rat} {strNan : String} {v : Val} :
    v ∈ Pipeline.catToGroup g1 rows2 minFreq strNan ↔
      (v ∈ Pipeline.uniques rows2 ∧ Pipeline.freqOf rows2 rows2.length v < minFreq ∧ v ≠ Val.str strNan) ∨
        (v ∈ g1.lst ∧ v ∉ Pipeline.uniques rows2) := by
  simp only [Pipeline.catToGroup, List.mem_append, List.mem_filter, PipelineLemmas.mem_sortByKey, Bool.and_eq_true,
    decide_eq_true_eq, bne_iff_ne]

/-- **A categorical value is sent to the default group iff it is rarer than `min_freq`**: for every
    observed value other than the missing-value marker, whatever the sample and the user's order. -/
theorem cat_default_iff_rare (g1 : GL) (rows2 : Pipeline.Rows) (minFreq : Rat) (strNan : String) (v : Val)
    (hobs : v ∈ Pipeline.uniques rows2) (hne : v ≠ Val.str strNan) :
    v ∈ Pipeline.catToGroup g1 rows2 minFreq strNan ↔ Pipeline.freqOf rows2 rows2.length v < minFreq :=
  mem_catToGroup.trans ⟨fun h => h.elim (·.2.1) fun h => absurd hobs h.2, fun h => Or.inl ⟨hobs, h, hne⟩⟩

/-- the leaders of the user's order that are never observed are sent to the default group too -/
theorem cat_unobserved_grouped (g1 : GL) (rows2 : Pipeline.Rows) (minFreq : Rat) (strNan : String) (v : Val)
    (hl : v ∈ g1.lst) (hobs : v ∉ Pipeline.uniques rows2) : v ∈ Pipeline.catToGroup g1 rows2 minFreq strNan :=
  mem_catToGroup.2 (Or.inr ⟨hl, hobs⟩)

/-- missing values are never sent to the default group -/
theorem cat_nan_not_grouped (g1 : GL) (rows2 : Pipeline.Rows) (minFreq : Rat) (strNan : String)
    (hobs : Val.str strNan ∈ Pipeline.uniques rows2) :
    Val.str strNan ∉ Pipeline.catToGroup g1 rows2 minFreq strNan :=
  fun h => (mem_catToGroup.1 h).elim (fun h => h.2.2 rfl) fun h => h.2 hobs

/-! ## Non-vacuity -/

example : isFrequent 12 3 5 = true := by decide +kernel

end C09
