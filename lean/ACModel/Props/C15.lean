import ACModel.Props.C11
import ACModel.Proofs.Measures
/-
  C15 — Feature selection is invariant under re-encodings that keep the information

  "The features returned by a selector, and their order, do not change when a quantitative feature
  is negated or rescaled by a positive factor, when the categories of a qualitative feature are
  renamed, or when rows or columns are permuted. A feature that is an exact copy of, or strictly
  monotone in, the target is always among the returned features of its type."

  The selection logic (`Select.selectType`) is a function of the measure table and of the pairwise
  associations only, so it suffices that those are invariant: proved here on the exact measures of
  `Model/Measures.lean`, for Kruskal–Wallis H, Pearson's r², Spearman's ρ² and χ² of the contingency
  table (hence Cramér's V, Tschuprow's T).  The real selectors end to end, row / column permutations,
  and the target-copy clause are decided by the metamorphic runs of `harness/c15.py` (partial); the
  driver's exact values of these measures are compared with the selectors' own values on every
  C14 / C15 case.
-/

namespace C15
open Carve C11

/-- a strictly increasing re-encoding keeps the number of values tied with a given one -/
theorem tie_counts_map {f : Rat → Rat} (hf : StrictMono f) (all : List Rat) (v : Rat) :
    ((all.map f).filter (fun x => x == f v)).length = (all.filter (fun x => x == v)).length :=
  MeasureLemmas.length_filter_map all fun x _ => MeasureLemmas.beq_map_inj (fun _ _ => hf.inj) x v

/-- **Average ranks are invariant under strictly increasing re-encodings** (positive rescaling,
    shifts, any monotone transform): the Kruskal–Wallis and Spearman statistics only see ranks. -/
theorem avgRank_strictMono {f : Rat → Rat} (hf : StrictMono f) (all : List Rat) (v : Rat) :
    avgRank (all.map f) (f v) = avgRank all v := by
  have hlt : ((all.map f).filter (fun x => decide (x < f v))).length = (all.filter (fun x => decide (x < v))).length :=
    MeasureLemmas.length_filter_map all fun _ _ => decide_eq_decide.2 hf.lt_iff
  rw [avgRank, avgRank, tie_counts_map hf, hlt]

/-- rank sums of the groups are unchanged, so the rows the Kruskal statistic is computed from are
    the same -/
theorem rankSum_strictMono {f : Rat → Rat} (hf : StrictMono f) (all grp : List Rat) :
    ((grp.map f).map (avgRank (all.map f))).foldl (· + ·) 0 = (grp.map (avgRank all)).foldl (· + ·) 0 := by
  simp only [List.map_map, Function.comp_def, avgRank_strictMono hf]

/-- **H reads a row only through its size and its rank sum.** -/
theorem kruskalH_congr (rows rows' : List Row) (tie : Rat)
    (h : rows.map (fun r => (r.n, r.rk)) = rows'.map (fun r => (r.n, r.rk))) :
    kruskalH rows tie = kruskalH rows' tie := by
  have hm (g : Nat × Rat → Rat) := congrArg (List.map g) h
  simp only [List.map_map] at hm
  exact MeasureLemmas.kruskalH_of_sizes_sumSq tie (by simpa [Function.comp_def] using congrArg (List.map (·.1)) h)
    fun _ => congrArg Measures.sumR (hm fun p => p.2 * p.2 / ((p.1 : Nat) : Rat))

open Measures MeasureLemmas

/-- **Kruskal–Wallis H is invariant under strictly increasing re-encodings of the variable**
    (positive rescaling, shifts, any monotone transform): same groups, same H, exactly. -/
theorem kruskal_invariant_strictMono {f : Rat → Rat} (hf : StrictMono f) (groups : List (List Rat)) :
    kruskalOfGroups (groups.map (fun g => g.map f)) = kruskalOfGroups groups := by
  simp only [kruskalOfGroups_map f (fun _ _ => hf.inj), avgRank_strictMono hf]
  rfl

/-- **Kruskal–Wallis H is invariant under negation of the variable.** -/
theorem kruskal_invariant_neg (groups : List (List Rat)) :
    kruskalOfGroups (groups.map (fun g => g.map (fun x => -x))) = kruskalOfGroups groups := by
  -- the ranks are reflected, `rank ↦ n + 1 − rank`, and H is unchanged by that
  rw [kruskalOfGroups_map _ (fun a b h => by rw [← Rat.neg_neg a, h, Rat.neg_neg])]
  simp only [avgRank_neg, rowsOf_reflect]
  rw [← natSum_rowsOf (avgRank groups.flatten)]
  exact kruskalH_reflect _ _ (by rw [rkSum_rowsOf, natSum_rowsOf, sum_avgRank])

/-- **Pearson's r² is invariant under every affine re-encoding `a·x + b` with `a ≠ 0`**
    (negation: `a = −1`; positive rescaling and shifts), so the comparison of |r| with `thresh_corr`
    in the correlation filter does not change. -/
theorem pearson_sq_invariant_affine (a b : Rat) (ha : a ≠ 0) (xs ys : List Rat) (h : xs.length = ys.length) :
    (pearsonSq (xs.map (fun x => a * x + b)) ys).map (·.1) = (pearsonSq xs ys).map (·.1) := by
  rw [pearsonSq_affine a b ha xs ys h]
  cases pearsonSq xs ys <;> rfl

/-- **Spearman's ρ (sign included) is invariant under strictly increasing re-encodings**: it only
    sees the ranks. -/
theorem spearman_invariant_strictMono {f : Rat → Rat} (hf : StrictMono f) (xs ys : List Rat) :
    spearmanSq (xs.map f) ys = spearmanSq xs ys := by
  simp only [spearmanSq, List.map_map, Function.comp_def, avgRank_strictMono hf]

/-- **Spearman's ρ² is invariant under negation.** -/
theorem spearman_sq_invariant_neg (xs ys : List Rat) (h : xs.length = ys.length) :
    (spearmanSq (xs.map (fun x => -x)) ys).map (·.1) = (spearmanSq xs ys).map (·.1) := by
  have hr : (xs.map (fun x => -x)).map (avgRank (xs.map (fun x => -x))) =
      (xs.map (avgRank xs)).map (fun r => (-1) * r + (((xs.length : Nat) : Rat) + 1)) := by
    simp only [List.map_map, Function.comp_def, avgRank_neg]
    exact List.map_congr_left fun v _ => by grind
  rw [spearmanSq, hr]
  exact pearson_sq_invariant_affine (-1) _ (by decide +kernel) _ _ (by simpa using h)

/-- **χ² (hence Cramér's V and Tschuprow's T) is invariant under renaming the categories of a
    qualitative feature**: an injective renaming `ρ` changes the names, and with them the order in
    which `crosstab` lists the categories (`cats'` is any ordering of the renamed categories), but
    not the statistic. -/
theorem chi2_invariant_rename (ρ : String → String) (hρ : ∀ a b, ρ a = ρ b → a = b)
    (xs ys cats cls cats' : List String) (hperm : cats'.Perm (cats.map ρ)) :
    chi2Table (contingency (xs.map ρ) ys cats' cls) = chi2Table (contingency xs ys cats cls) := by
  rw [← contingency_rename ρ hρ xs ys cats cls]
  exact chi2Table_perm (hperm.map _)

/-- **χ² is invariant under permutations of the rows of the data.** -/
theorem chi2_invariant_perm_rows (xs ys xs' ys' cats cls : List String) (h : (xs.zip ys).Perm (xs'.zip ys')) :
    chi2Table (contingency xs ys cats cls) = chi2Table (contingency xs' ys' cats cls) := by
  rw [contingency_perm_rows xs ys xs' ys' h]

/-! ## Non-vacuity -/

example : avgRank [1, 5, 5, 9] 5 = 5 / 2 := by decide +kernel
example : avgRank ([1, 5, 5, 9].map (fun x => 2 * x + 1)) (2 * 5 + 1) = 5 / 2 := by decide +kernel
example : StrictMono (fun x => 2 * x + 1) := affine_strictMono 2 1 (by decide +kernel)
-- three classes with ties: H = 7/2 / tie correction, the same after x ↦ −x and after x ↦ 2x + 1
example : Measures.kruskalOfGroups [[1, 2, 2], [2, 5], [7, 9]] =
    Measures.kruskalOfGroups [[-1, -2, -2], [-2, -5], [-7, -9]] := by
  decide +kernel
example : (Measures.kruskalOfGroups [[1, 2, 2], [2, 5], [7, 9]]).isSome = true := by decide +kernel
example : Measures.chi2Table (Measures.contingency ["a", "b", "a", "c", "b"] ["0", "1", "1", "0", "1"]
      ["a", "b", "c"] ["0", "1"]) =
    Measures.chi2Table (Measures.contingency ["z", "y", "z", "x", "y"] ["0", "1", "1", "0", "1"]
      ["x", "y", "z"] ["0", "1"]) := by
  decide +kernel
example : (Measures.pearsonSq [1, 2, 4, 7] [3, 1, 4, 1]).map (·.1) =
    (Measures.pearsonSq [-1, -2, -4, -7] [3, 1, 4, 1]).map (·.1) := by
  decide +kernel

/-! ## The clause "an exact copy of the target is always returned" is false for a binary target

  `scipy.stats.chi2_contingency` applies Yates' continuity correction to 2×2 tables only.  Cramér's V
  of an exact two-class copy of a binary target is therefore below 1, while a three-category feature
  that is almost a copy is not corrected and can rank above it; the correlation filter then drops
  the copy.  The witness below is the table of `replays`/`known_findings.json` (C15-yates-2x2), with
  the model's `Carve.chi2`. -/

/-- 29 + 31 rows, the feature equals the target: V² = χ²/n -/
def copyTable : List Row := [⟨29, 0, 0, false⟩, ⟨31, 31, 0, false⟩]

/-- the competitor: categories (25, 0), (0, 30), (4, 1) -/
def rivalTable : List Row := [⟨25, 0, 0, false⟩, ⟨30, 30, 0, false⟩, ⟨5, 1, 0, false⟩]

/-- **Witness**: the exact copy of the target has a strictly smaller Cramér's V than the rival. -/
theorem copy_outranked_by_yates :
    (match chi2 copyTable, chi2 rivalTable with
     | some c, some r => decide (c / 60 < 1 ∧ c / 60 < r / 60)
     | _, _ => false) = true := by decide +kernel

end C15
