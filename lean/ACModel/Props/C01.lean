import ACModel.Proofs.Carve
/-
  C01 — Carvers pick the most target-associated viable ordered grouping

  "For every feature a carver keeps, the fitted grouping attains the maximum of the chosen
  association measure (Tschuprow's T, Cramer's V or Kruskal-Wallis H on the training rows) over all
  viable groupings of the feature's base modalities into 2..max_n_mod order-contiguous groups; when
  dropna=True and the feature has missing values, the missing-value modality is then placed inside
  one group or alone (groups possibly re-merged) so that the measure is again maximal over all
  viable placements. A feature is dropped from `features` only if one of these searches has no
  viable candidate, where viable means every group holds at least min_freq_mod of the rows,
  order-adjacent groups have distinct target rates and, when X_dev is given, both also hold on
  X_dev with groups ranked identically by target rate."

  Model: `ACModel/Model/Combinations.lean` (the enumerators) and `ACModel/Model/Carve.lean` (the
  measures as exact rational surrogates, viability, "sort by measure, first viable wins").
-/

namespace C01
open Comb Carve

/-- the specification of a candidate: a cut of `order` into consecutive non-empty groups -/
def IsCut {α : Type} (order : List α) (c : List (List α)) : Prop :=
  c.flatten = order ∧ ∀ g ∈ c, g ≠ []

theorem isCut_nil {α : Type} {l : List α} : IsCut l [] ↔ l = [] := by
  simp [IsCut]

theorem isCut_cons {α : Type} {l g : List α} {rest : List (List α)} :
    IsCut l (g :: rest) ↔ ∃ i, i < l.length ∧ l.take (i + 1) = g ∧ IsCut (l.drop (i + 1)) rest := by
  constructor
  · rintro ⟨rfl, hne⟩
    have hg := List.length_pos_iff.2 (hne g List.mem_cons_self)
    refine ⟨g.length - 1, by simp only [List.flatten_cons, List.length_append]; omega, ?_, ?_,
      fun g' hg' => hne g' (List.mem_cons_of_mem _ hg')⟩ <;>
    rw [Nat.sub_add_cancel hg]
    · exact List.take_left
    · exact List.drop_left.symm
  · rintro ⟨i, hi, rfl, hf, hne⟩
    refine ⟨by rw [List.flatten_cons, hf, List.take_append_drop], fun g' hg' => ?_⟩
    rcases List.mem_cons.1 hg' with rfl | hg'
    · exact List.ne_nil_of_length_pos (by rw [List.length_take]; omega)
    · exact hne g' hg'

theorem mem_splitsUpTo {α : Type} (r : Nat) : ∀ (l : List α) (c : List (List α)),
    c ∈ splitsUpTo r l ↔ IsCut l c ∧ c.length ≤ r := by
  intro l c
  fun_induction splitsUpTo r l generalizing c with
  | case1 r => cases c <;> simp [isCut_nil, isCut_cons]
  | case2 x t => cases c <;> simp [isCut_nil]
  | case3 r x t ih =>
    cases c with
    | nil => simp [isCut_nil]
    | cons g rest =>
      -- both sides: a first group `g = (x :: t).take (i + 1)`, then a cut `rest` of what is left into at most
      -- `r` groups
      simp only [List.mem_flatMap, List.mem_range, List.mem_map, List.cons.injEq, ih, isCut_cons, List.length_cons]
      exact ⟨fun ⟨i, hi, rest', ⟨hc, hl⟩, hg, hr⟩ => hr ▸ ⟨⟨i, hi, hg, hc⟩, Nat.succ_le_succ hl⟩,
        fun ⟨⟨i, hi, hg, hc⟩, hl⟩ => ⟨i, hi, rest, ⟨hc, Nat.le_of_succ_le_succ hl⟩, hg, rfl⟩⟩

/-- **`consecutive_combinations` enumerates exactly the order-contiguous groupings into
    2..max_n_mod groups** — for every order and every `max_n_mod`. -/
theorem consecutiveCombinations_iff {α : Type} (order : List α) (m : Nat) (c : List (List α)) :
    c ∈ consecutiveCombinations order m ↔ IsCut order c ∧ 2 ≤ c.length ∧ c.length ≤ m := by
  simp only [consecutiveCombinations, List.mem_filter, mem_splitsUpTo, decide_eq_true_eq, and_assoc]
  exact and_congr_right fun _ => and_comm

/-- **`nan_combinations` enumerates exactly the placements of the missing-value modality**: inside
    one of the groups of a contiguous grouping, or alone when that grouping has fewer than `max_n_mod` groups. -/
theorem nanCombinations_iff {α : Type} (order : List α) (nan : α) (m : Nat) (c : List (List α)) :
    c ∈ nanCombinations order nan m ↔
      ∃ c0, (IsCut order c0 ∧ 2 ≤ c0.length ∧ c0.length ≤ m) ∧
        ((∃ n, n < c0.length ∧ c = addAt nan n c0) ∨ (c0.length < m ∧ c = c0 ++ [[nan]])) := by
  simp only [nanCombinations, nanPlacements, List.mem_flatMap, consecutiveCombinations_iff, List.mem_append,
    List.mem_map, List.mem_range]
  refine exists_congr fun c0 => and_congr_right fun _ => or_congr (by simp only [eq_comm]) ?_
  split <;> simp [*]

/-- a placement keeps the number of groups within `max_n_mod` -/
theorem nanCombinations_length {α : Type} (order : List α) (nan : α) (m : Nat) (c : List (List α))
    (h : c ∈ nanCombinations order nan m) : c.length ≤ m := by
  obtain ⟨c0, ⟨_, _, hm⟩, ⟨n, _, rfl⟩ | ⟨hlt, rfl⟩⟩ := (nanCombinations_iff order nan m c).1 h
  · rwa [length_addAt]
  · rwa [List.length_append]

theorem gtKey_irrefl (a : Option Rat) : gtKey 0 a a = false := by
  cases a with
  | none => rfl
  | some x => simp [gtKey, Rat.zero_mul, Rat.add_zero, Rat.lt_irrefl]

/-- **Soundness of the search.** Every acceptable winner is a viable candidate, and no candidate
    that is certainly viable has a strictly larger measure. -/
theorem search_best_sound (cands : List Cand) (ws : List Cand) (dropOk : Bool)
    (h : search cands 0 = .best ws dropOk) :
    ∀ w ∈ ws, w ∈ cands ∧ w.v.viable = true ∧
      ∀ d ∈ cands, d.v.certain = true → gtKey 0 (keyOf d.m) (keyOf w.m) = false := by
  obtain ⟨_, _, (rfl : ws = winners 0 cands), _⟩ := (search_iff ..).1 h
  exact fun _ => mem_winners.1

/-- **A feature is dropped by a search only if it has no viable candidate** (for any resolution of
    rate ties: `dropAllowed` requires that no candidate is certainly viable). -/
theorem search_none_iff (cands : List Cand) (hnc : cands.any (fun c => c.m == .crash) = false) :
    search cands 0 = .none ↔ ∀ c ∈ cands, c.v.viable = false := by
  simp [search_iff, hnc]

theorem search_drop_allowed (cands : List Cand) (ws : List Cand)
    (h : search cands 0 = .best ws true) : ∀ c ∈ cands, c.v.certain = false :=
  not_certain_of_drops (.inr ⟨ws, h⟩)

theorem search_none_no_certain (cands : List Cand) (h : search cands 0 = .none) :
    ∀ c ∈ cands, c.v.certain = false :=
  not_certain_of_drops (.inl h)

/-- the exception of a degenerate table escapes iff some candidate's measure raises -/
theorem search_crash_iff (cands : List Cand) :
    search cands 0 = .crash ↔ cands.any (fun c => c.m == .crash) = true :=
  search_iff ..

/-- a search that does not allow dropping the feature has a certainly viable candidate -/
theorem search_winner_exists (cands : List Cand) (ws : List Cand) (dropOk : Bool)
    (h : search cands 0 = .best ws dropOk) (hd : dropOk = false) : ∃ c ∈ cands, c.v.certain = true := by
  obtain ⟨_, _, _, (hall : dropOk = cands.all (!·.v.certain))⟩ := (search_iff ..).1 h
  simpa [hd] using hall.symm

/-- the association measure of a grouping of the table `t` -/
def assoc (cfg : Cfg) (t : Table) (c : List (List String)) : Measure :=
  measure cfg ((grouper cfg t.rows c).map (·.2)) (nRows t.rows) t.tie

theorem mem_candidates {cfg : Cfg} {t : Table} {dev : Option (List (String × Row))}
    {combs : List (List (List String))} {w : Cand} :
    w ∈ candidates cfg t dev combs ↔ ∃ c ∈ combs, w = ⟨c, assoc cfg t c, viability cfg t.rows dev c⟩ := by
  simp only [candidates, assoc, List.mem_map, eq_comm]

/-- `g` is a best viable grouping among the candidates `spec` of the table `t` (dev sample `dev`):
    viable itself, and no candidate that is certainly viable has a strictly larger measure -/
def IsArgmax (cfg : Cfg) (t : Table) (dev : Option (List (String × Row)))
    (spec : List (List String) → Prop) (g : List (List String)) : Prop :=
  spec g ∧ (viability cfg t.rows dev g).viable = true ∧
    ∀ c, spec c → (viability cfg t.rows dev c).certain = true →
      gtKey 0 (keyOf (assoc cfg t c)) (keyOf (assoc cfg t g)) = false

/-- `IsArgmax` with the tolerance the search is run with (`IsArgmax` is the case `tol = 0`) -/
def IsArgmaxTol (tol : Rat) (cfg : Cfg) (t : Table) (dev : Option (List (String × Row)))
    (spec : List (List String) → Prop) (g : List (List String)) : Prop :=
  spec g ∧ (viability cfg t.rows dev g).viable = true ∧
    ∀ c, spec c → (viability cfg t.rows dev c).certain = true →
      gtKey tol (keyOf (assoc cfg t c)) (keyOf (assoc cfg t g)) = false

/-- no candidate of the specification is viable whatever the resolution of rate ties -/
def NoneCertain (cfg : Cfg) (t : Table) (dev : Option (List (String × Row)))
    (spec : List (List String) → Prop) : Prop :=
  ∀ c, spec c → (viability cfg t.rows dev c).certain = false

theorem argmax_of_picks {cfg : Cfg} {t : Table} {dev : Option (List (String × Row))}
    {combs : List (List (List String))} {spec : List (List String) → Prop} (hspec : ∀ c, c ∈ combs ↔ spec c)
    {tol : Rat} {w : Cand} (h : (search (candidates cfg t dev combs) tol).picks w) :
    IsArgmaxTol tol cfg t dev spec w.comb := by
  obtain ⟨ws, d, hs, hw⟩ := h
  obtain ⟨_, _, (rfl : ws = winners tol _), _⟩ := (search_iff ..).1 hs
  obtain ⟨hwc, hviab, hmax⟩ := mem_winners.1 hw
  obtain ⟨c, hc, rfl⟩ := mem_candidates.1 hwc
  exact ⟨(hspec c).1 hc, hviab, fun c' hc' => List.forall_mem_map.1 hmax c' ((hspec c').2 hc')⟩

/-- a winner of the search over an enumerated candidate list is an arg-max over the specification
    the enumerator is complete for -/
theorem argmax_of_search {cfg : Cfg} {t : Table} {dev : Option (List (String × Row))}
    {combs : List (List (List String))} {spec : List (List String) → Prop}
    (hspec : ∀ c, c ∈ combs ↔ spec c) {ws : List Cand} {dropOk : Bool}
    (h : search (candidates cfg t dev combs) 0 = .best ws dropOk) {w : Cand} (hw : w ∈ ws) :
    IsArgmax cfg t dev spec w.comb :=
  argmax_of_picks hspec ⟨ws, dropOk, h, hw⟩

theorem noneCertain_of_drops {cfg : Cfg} {t : Table} {dev : Option (List (String × Row))}
    {combs : List (List (List String))} {spec : List (List String) → Prop} (hspec : ∀ c, c ∈ combs ↔ spec c)
    {tol : Rat} (h : (search (candidates cfg t dev combs) tol).drops) : NoneCertain cfg t dev spec :=
  fun c hc => List.forall_mem_map.1 (not_certain_of_drops h) c ((hspec c).2 hc)

/-- the candidates of stage 1: cuts of the base labels into 2..max_n_mod consecutive groups -/
def Stage1Spec (cfg : Cfg) (inp : Input) (c : List (List String)) : Prop :=
  IsCut inp.labels c ∧ 2 ≤ c.length ∧ c.length ≤ cfg.maxNMod

/-- the candidates of stage 2 for the stage-1 grouping `g1`: the missing-value modality inside a
    group of a (possibly re-merged) consecutive grouping of the stage-1 groups, or alone -/
def Stage2Spec (cfg : Cfg) (inp : Input) (g1 : List (List String)) (c : List (List String)) : Prop :=
  c ∈ nanCombinations (g1.filterMap List.head?) inp.nanLabel cfg.maxNMod

/-- the table of stage 2: the stage-1 groups plus the missing-value modality -/
def stage2Table (inp : Input) (g1 : List (List String)) : Table :=
  { rows := applyComb inp.train2.rows (g1 ++ [[inp.nanLabel]]), tie := inp.train2.tie }

def stage2Dev (inp : Input) (g1 : List (List String)) : Option (List (String × Row)) :=
  inp.dev2.map (fun d => applyComb d (g1 ++ [[inp.nanLabel]]))

/-- the two searches of `_carve_feature` -/
def search1 (cfg : Cfg) (inp : Input) (tol : Rat) : Search :=
  search (candidates cfg inp.train1 inp.dev1 (consecutiveCombinations inp.labels cfg.maxNMod)) tol

def search2 (cfg : Cfg) (inp : Input) (g1 : List (List String)) (tol : Rat) : Search :=
  search (candidates cfg (stage2Table inp g1) (stage2Dev inp g1)
    (nanCombinations (g1.filterMap List.head?) inp.nanLabel cfg.maxNMod)) tol

theorem mem_dropped_append {β : Type} {dropOk : Bool} {l : List (Option β)} {r : Option β} :
    r ∈ (if dropOk = true then [none] else []) ++ l ↔ (r = none ∧ dropOk = true) ∨ r ∈ l := by
  cases dropOk <;> simp

theorem mem_stage2 {cfg : Cfg} {inp : Input} {g1 : List (List String)} {tol : Rat}
    {r : Option (List (List String))} (hr : r ∈ (stage2 cfg inp g1 tol).getD []) :
    (r = none ∧ (search2 cfg inp g1 tol).drops) ∨
    ∃ w2, (search2 cfg inp g1 tol).picks w2 ∧ r = some (expand (g1 ++ [[inp.nanLabel]]) w2.comb) := by
  unfold stage2 at hr
  dsimp only at hr
  split at hr
  · cases hr
  · next hs => exact .inl ⟨List.mem_singleton.1 hr, .inl hs⟩
  · next ws d hs =>
    rcases mem_dropped_append.1 hr with ⟨rfl, rfl⟩ | hr
    · exact .inl ⟨rfl, .inr ⟨ws, hs⟩⟩
    · obtain ⟨w, hw, rfl⟩ := List.mem_map.1 hr
      exact .inr ⟨w, ⟨ws, d, hs, hw⟩, rfl⟩

/-- every result of `_carve_feature`, traced to the search that allowed it -/
theorem mem_carve {cfg : Cfg} {inp : Input} {tol : Rat} {rs : List (Option (List (List String)))}
    (h : carve cfg inp tol = .results rs) {r : Option (List (List String))} (hr : r ∈ rs) :
    (r = none ∧ (inp.labels.length + (if inp.hasNan = true then 1 else 0) ≤ 1 ∨ inp.labels.length ≤ 1 ∨
      (search1 cfg inp tol).drops)) ∨
    ∃ w1, (search1 cfg inp tol).picks w1 ∧
      (((cfg.dropna && inp.hasNan) = false ∧
          r = some (if inp.hasNan = true then w1.comb ++ [[inp.nanLabel]] else w1.comb)) ∨
       ((cfg.dropna && inp.hasNan) = true ∧
          ((r = none ∧ (search2 cfg inp w1.comb tol).drops) ∨
           ∃ w2, (search2 cfg inp w1.comb tol).picks w2 ∧
             r = some (expand (w1.comb ++ [[inp.nanLabel]]) w2.comb)))) := by
  revert h
  fun_cases carve cfg inp tol
  -- the branches of `Carve.carve` in order: 1, 3, 5 its exits with `[none]` (at most one modality, at most
  -- one label, stage 1 without a viable candidate); 2, 4, 6 a crash (raw measure, stage 1, stage 2);
  -- 7, 8 stage 1 has winners, with (7) and without (8) the missing-value stage
  case case1 h1 => rintro ⟨⟩; exact .inl ⟨List.mem_singleton.1 hr, .inl h1⟩
  case case2 => nofun
  case case3 h3 => rintro ⟨⟩; exact .inl ⟨List.mem_singleton.1 hr, .inr (.inl h3)⟩
  case case4 => nofun
  case case5 hs => rintro ⟨⟩; exact .inl ⟨List.mem_singleton.1 hr, .inr (.inr (.inl hs))⟩
  case case6 => nofun
  case case7 ws d hs _ hnan _ _ =>
    rintro ⟨⟩
    rcases mem_dropped_append.1 hr with ⟨rfl, rfl⟩ | hr
    · exact .inl ⟨rfl, .inr (.inr (.inr ⟨ws, hs⟩))⟩
    · obtain ⟨o, ho, hro⟩ := List.mem_flatMap.1 hr
      obtain ⟨w, hw, rfl⟩ := List.mem_map.1 ho
      exact .inr ⟨w, ⟨ws, d, hs, hw⟩, .inr ⟨hnan, mem_stage2 hro⟩⟩
  case case8 ws d hs _ hnan =>
    rintro ⟨⟩
    rcases mem_dropped_append.1 hr with ⟨rfl, rfl⟩ | hr
    · exact .inl ⟨rfl, .inr (.inr (.inr ⟨ws, hs⟩))⟩
    · obtain ⟨w, hw, rfl⟩ := List.mem_map.1 hr
      exact .inr ⟨w, ⟨ws, d, hs, hw⟩, .inl ⟨Bool.eq_false_iff.2 hnan, rfl⟩⟩

/-- `carve_kept_is_argmax` for every tolerance (the driver runs the search with 1e-9: `Driver/Carve.lean`, `tolOf`) -/
theorem carve_kept_tol {tol : Rat} {cfg : Cfg} {inp : Input} {rs : List (Option (List (List String)))}
    {g : List (List String)} (h : carve cfg inp tol = .results rs) (hg : some g ∈ rs) :
    ∃ g1, IsArgmaxTol tol cfg inp.train1 inp.dev1 (Stage1Spec cfg inp) g1 ∧
      (((cfg.dropna && inp.hasNan) = false ∧ g = (if inp.hasNan then g1 ++ [[inp.nanLabel]] else g1)) ∨
       ((cfg.dropna && inp.hasNan) = true ∧ ∃ g2,
          IsArgmaxTol tol cfg (stage2Table inp g1) (stage2Dev inp g1) (Stage2Spec cfg inp g1) g2 ∧
          g = expand (g1 ++ [[inp.nanLabel]]) g2)) := by
  obtain ⟨h, _⟩ | ⟨w1, hw1, hr⟩ := mem_carve h hg
  · cases h
  refine ⟨w1.comb, argmax_of_picks (consecutiveCombinations_iff _ _) hw1, ?_⟩
  obtain ⟨hnan, hr⟩ | ⟨hnan, ⟨h, _⟩ | ⟨w2, hw2, hr⟩⟩ := hr
  · exact .inl ⟨hnan, Option.some.inj hr⟩
  · cases h
  · exact .inr ⟨hnan, w2.comb, argmax_of_picks (fun _ => Iff.rfl) hw2, Option.some.inj hr⟩

/-- **C01, kept features.**  Whatever `_carve_feature` returns as fitted grouping `g`:
    * without the missing-value stage (`dropna=False` or no missing value) `g` is — up to the
      missing-value modality kept apart — an arg-max (`IsArgmax`) over *all* cuts of the base labels
      into 2..max_n_mod consecutive groups: viable itself, and no cut that is viable whatever the
      resolution of rate ties has a strictly larger measure;
    * with it, `g` is the expansion of such an arg-max over all placements of the missing-value
      modality, computed on a stage-1 grouping that is itself such an arg-max. -/
theorem carve_kept_is_argmax (cfg : Cfg) (inp : Input) (rs : List (Option (List (List String))))
    (g : List (List String)) (h : carve cfg inp 0 = .results rs) (hg : some g ∈ rs) :
    ∃ g1, IsArgmax cfg inp.train1 inp.dev1 (Stage1Spec cfg inp) g1 ∧
      (((cfg.dropna && inp.hasNan) = false ∧ g = (if inp.hasNan then g1 ++ [[inp.nanLabel]] else g1)) ∨
       ((cfg.dropna && inp.hasNan) = true ∧ ∃ g2,
          IsArgmax cfg (stage2Table inp g1) (stage2Dev inp g1) (Stage2Spec cfg inp g1) g2 ∧
          g = expand (g1 ++ [[inp.nanLabel]]) g2)) :=
  carve_kept_tol h hg

/-- `carve_dropped_only_if` for every tolerance -/
theorem carve_dropped_tol {tol : Rat} {cfg : Cfg} {inp : Input} {rs : List (Option (List (List String)))}
    (h : carve cfg inp tol = .results rs) (hn : none ∈ rs) :
    inp.labels.length + (if inp.hasNan = true then 1 else 0) ≤ 1 ∨ inp.labels.length ≤ 1 ∨
    NoneCertain cfg inp.train1 inp.dev1 (Stage1Spec cfg inp) ∨
    ((cfg.dropna && inp.hasNan) = true ∧ ∃ g1, IsArgmaxTol tol cfg inp.train1 inp.dev1 (Stage1Spec cfg inp) g1 ∧
      NoneCertain cfg (stage2Table inp g1) (stage2Dev inp g1) (Stage2Spec cfg inp g1)) := by
  -- the four ways of `mem_carve`, in order: dropped before or by the first search; a grouping of the first search
  -- alone (`hr : none = some _`); dropped by the second search; a grouping again
  obtain ⟨_, h⟩ | ⟨w1, hw1, ⟨_, hr⟩ | ⟨hnan, ⟨_, h⟩ | ⟨_, _, hr⟩⟩⟩ := mem_carve h hn
  · exact h.imp_right (.imp_right (.inl ∘ noneCertain_of_drops (consecutiveCombinations_iff _ _)))
  · cases hr
  · exact .inr (.inr (.inr ⟨hnan, w1.comb, argmax_of_picks (consecutiveCombinations_iff _ _) hw1,
      noneCertain_of_drops (fun _ => Iff.rfl) h⟩))
  · cases hr

/-- **C01, dropped features.**  `_carve_feature` drops a feature only if it has at most one
    modality, or one of the two searches has no candidate that is viable whatever the resolution of
    rate ties (`NoneCertain`; without a dev sample: no viable candidate): no cut of the base labels
    into 2..max_n_mod consecutive groups, or (missing-value stage) for some best stage-1 grouping no
    placement of the missing-value modality. -/
theorem carve_dropped_only_if (cfg : Cfg) (inp : Input) (rs : List (Option (List (List String))))
    (h : carve cfg inp 0 = .results rs) (hn : none ∈ rs) :
    inp.labels.length + (if inp.hasNan = true then 1 else 0) ≤ 1 ∨ inp.labels.length ≤ 1 ∨
    NoneCertain cfg inp.train1 inp.dev1 (Stage1Spec cfg inp) ∨
    ((cfg.dropna && inp.hasNan) = true ∧ ∃ g1, IsArgmax cfg inp.train1 inp.dev1 (Stage1Spec cfg inp) g1 ∧
      NoneCertain cfg (stage2Table inp g1) (stage2Dev inp g1) (Stage2Spec cfg inp g1)) :=
  carve_dropped_tol h hn

/-! ## Non-vacuity -/

example : consecutiveCombinations [1, 2, 3] 3 = [[[1], [2], [3]], [[1], [2, 3]], [[1, 2], [3]]] := by decide +kernel
example : IsCut [1, 2, 3] [[1], [2, 3]] := ⟨by decide +kernel, by decide +kernel⟩
example : nanCombinations ["a", "b"] "nan" 2 = [[["a", "nan"], ["b"]], [["a"], ["b", "nan"]]] := by decide +kernel

/-- a concrete binary feature: three modalities with rates 10 %, 20 %, 80 %; the carver merges the
    first two (the hypotheses of `carve_kept_is_argmax` are met by an actual run of the model) -/
private def cfgX : Cfg := { kind := .binary, sortBy := .cramerv, minFreqMod := 1/10, maxNMod := 2, dropna := false }
private def rowsX : List (String × Row) :=
  [("a", ⟨40, 4, 0, false⟩), ("b", ⟨30, 6, 0, false⟩), ("c", ⟨30, 24, 0, false⟩)]
private def inpX : Input :=
  { labels := ["a", "b", "c"], hasNan := false, nanLabel := "__NAN__", train1 := { rows := rowsX },
    train2 := { rows := rowsX }, dev1 := none, dev2 := none }
example : (match carve cfgX inpX 0 with
    | .results l => decide (l = [some [["a", "b"], ["c"]]])
    | .crash => false) = true := by decide +kernel

end C01
