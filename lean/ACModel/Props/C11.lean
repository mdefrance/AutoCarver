import ACModel.Proofs.Quantiles
import ACModel.Proofs.StrictMono
import ACModel.Proofs.Rename
/-
  C11 — Carving is invariant under information-preserving re-encodings

  "Permuting the rows (with their index), relabelling the index, multiplying a quantitative feature
  by a positive constant or shifting it (exactly representable), or renaming categories by an
  order-preserving bijection leaves unchanged which features are kept and the partition of rows
  induced by transform."

  In the model the base discretization consumes a sample only through the histogram of its values
  (`Hist`: sorted distinct values with counts) and the carving search only through per-modality
  counts (`Carve.Row`), so row permutations and index relabellings are invisible by construction.
  What needs proof is equivariance of `find_quantiles` under strictly increasing maps of the
  values (`x ↦ a·x + b`, `a > 0`): the boundaries are mapped, hence the partition of rows is the
  same.  The float kernels only see counts, so they are unaffected.  For the carving search: the
  table it works on depends on the multiset of rows only (`counts_perm`), and the search is
  equivariant under an injective renaming of the base labels (`stage1_rename_equivariant`: renamed
  tables and labels in, renamed winners out, with the same measures and verdicts).
-/

namespace C11
open BaseDisc

def mapHist (f : Rat → Rat) (h : Hist) : Hist := h.map (fun p => (f p.1, p.2))

theorem total_mapHist (f : Rat → Rat) (h : Hist) : total (mapHist f h) = total h := by
  simp [total, mapHist, Function.comp_def]

theorem elemAt_mapHist (f : Rat → Rat) (h : Hist) (j : Nat) : elemAt (mapHist f h) j = (elemAt h j).map f := by
  fun_induction elemAt h j with
  | case1 => rfl
  | case2 v c t j hj => simp only [mapHist, List.map_cons, elemAt, if_pos hj, Option.map_some]
  | case3 v c t j hj ih => simp only [mapHist, List.map_cons, elemAt, if_neg hj]; exact ih

theorem maxOf_mapHist (f : Rat → Rat) (h : Hist) : maxOf (mapHist f h) = (maxOf h).map f := by
  simp [maxOf_eq_getLast?, mapHist, Function.comp_def]

theorem cutRun_mapHist (f : Rat → Rat) (run : Hist) (lenDf q : Nat) :
    cutRun (mapHist f run) lenDf q = (cutRun run lenDf q).map f := by
  simp only [cutRun, total_mapHist, elemAt_mapHist, maxOf_mapHist, apply_ite (List.map f), List.map_nil,
    List.map_filterMap, Option.toList_map]

theorem splitRuns_mapHist (f : Rat → Rat) (lenDf q : Nat) : ∀ (h cur : Hist),
    splitRuns lenDf q (mapHist f h) (mapHist f cur) = (splitRuns lenDf q h cur).map (mapHist f) := by
  intro h cur
  fun_induction splitRuns lenDf q h cur with
  | case1 cur => simp [splitRuns, mapHist]
  | case2 v c t cur hf ih => simpa [splitRuns, mapHist, hf] using ih
  | case3 v c t cur hf ih => simpa [splitRuns, mapHist, hf] using ih

theorem sortRats_map {f : Rat → Rat} (hf : StrictMono f) : ∀ (l : List Rat),
    sortRats (l.map f) = (sortRats l).map f := by
  intro l
  induction l with
  | nil => rfl
  | cons x t ih =>
    rw [List.map_cons, sortRats, ih]
    exact insertsSorted.map insertsSorted f (fun _ _ => hf.le_iff) x _

theorem dedupSorted_map {f : Rat → Rat} (hf : StrictMono f) : ∀ (l : List Rat),
    dedupSorted (l.map f) = (dedupSorted l).map f
  | [] => rfl
  | [a] => rfl
  | a :: b :: t => by
    have ih := dedupSorted_map hf (b :: t)
    simp only [List.map_cons] at ih ⊢
    unfold dedupSorted
    by_cases h : a = b
    · simp [h, ih]
    · have : ¬ f a = f b := fun e => h (hf.inj e)
      simp [h, this, ih]

theorem rawQuantiles_mapHist (f : Rat → Rat) (h : Hist) (lenDf q : Nat) :
    rawQuantiles (mapHist f h) lenDf q = (rawQuantiles h lenDf q).map f := by
  have hs := splitRuns_mapHist f lenDf q h []
  unfold rawQuantiles
  -- `mapHist` unfolded in `hs` and in the goal alike, so that `hs` rewrites; the test comes out free of `f`
  simp only [mapHist, List.map_nil, List.any_map, List.filter_map, List.map_map, Function.comp_def] at hs ⊢
  split
  · simp only [hs, List.map_append, List.map_flatMap, List.flatMap_map, List.map_map, Function.comp_def]
    congr 2
    funext run
    exact cutRun_mapHist f run lenDf q
  · exact cutRun_mapHist f h lenDf q

/-- **`find_quantiles` is equivariant under strictly increasing re-encodings** of the values —
    in particular under every `x ↦ a·x + b` with `a > 0`: the boundaries are the images of the
    boundaries, so the induced partition of the rows is unchanged. -/
theorem findQuantiles_equivariant {f : Rat → Rat} (hf : StrictMono f) (h : Hist) (lenDf q : Nat) (dedup : Bool) :
    findQuantiles (mapHist f h) lenDf q dedup = (findQuantiles h lenDf q dedup).map f := by
  rw [findQuantiles_eq, rawQuantiles_mapHist, sortRats_map hf, dedupSorted_map hf]
  cases dedup <;> rfl

theorem affine_strictMono (a b : Rat) (ha : 0 < a) : StrictMono (fun x => a * x + b) := by
  intro x y hxy
  exact Rat.add_lt_add_right.2 (Rat.mul_lt_mul_of_pos_left hxy ha)

/-- **Affine invariance of the quantile boundaries**: multiplying a quantitative feature by a positive
    constant and shifting it does the same to its boundaries. -/
theorem findQuantiles_affine (a b : Rat) (ha : 0 < a) (h : Hist) (lenDf q : Nat) :
    findQuantiles (mapHist (fun x => a * x + b) h) lenDf q =
      (findQuantiles h lenDf q).map (fun x => a * x + b) :=
  findQuantiles_equivariant (affine_strictMono a b ha) h lenDf q true

open Carve Comb RenameLemmas

/-- **Permuting the rows changes no table**: a table that counts the rows of a column counts the rows of every
    permutation of it (the hypothesis `Counts` of the row-level theorems of C02 is about the multiset of rows). -/
theorem counts_perm {t : List (String × Row)} {col col' : List String} (h : col.Perm col') :
    C02.Counts t col ↔ C02.Counts t col' := by
  simp only [C02.Counts, h.count_eq]

/-- **The carving search is equivariant under an injective renaming of the base labels**: on the renamed tables
    (train and dev) and the renamed labels, the search over the consecutive groupings returns exactly the renamed
    winners, with the same measures and viability verdicts; it crashes or finds nothing in exactly the same cases.
    (A renaming that keeps the order of the labels, as the property says: the labels are listed in the same order on
    both sides.) -/
theorem stage1_rename_equivariant {ρ : String → String} (hρ : Inj ρ) (cfg : Cfg) (hns : cfg.sortGroupsByLabel = false)
    (train : Table) (dev : Option (List (String × Row))) (labels : List String) (tol : Rat) :
    search (candidates cfg { rows := renT ρ train.rows, tie := train.tie } (dev.map (renT ρ))
        (consecutiveCombinations (labels.map ρ) cfg.maxNMod)) tol
      = match search (candidates cfg train dev (consecutiveCombinations labels cfg.maxNMod)) tol with
        | .crash => .crash
        | .none => .none
        | .best ws d => .best (ws.map (renCand ρ)) d := by
  rw [consecutiveCombinations_map, candidates_ren hρ cfg hns, search_ren]
  cases search (candidates cfg train dev (consecutiveCombinations labels cfg.maxNMod)) tol <;> rfl

/-- in particular the same features are dropped -/
theorem stage1_rename_none {ρ : String → String} (hρ : Inj ρ) (cfg : Cfg) (hns : cfg.sortGroupsByLabel = false)
    (train : Table) (dev : Option (List (String × Row))) (labels : List String) (tol : Rat) :
    search (candidates cfg { rows := renT ρ train.rows, tie := train.tie } (dev.map (renT ρ))
        (consecutiveCombinations (labels.map ρ) cfg.maxNMod)) tol = .none ↔
    search (candidates cfg train dev (consecutiveCombinations labels cfg.maxNMod)) tol = .none := by
  rw [stage1_rename_equivariant hρ cfg hns]
  cases search (candidates cfg train dev (consecutiveCombinations labels cfg.maxNMod)) tol <;> simp

/-- **So is the search over the placements of the missing-value modality** (stage 2: the stage-1 leaders and the
    missing-value marker renamed together). -/
theorem stage2_rename_equivariant {ρ : String → String} (hρ : Inj ρ) (cfg : Cfg) (hns : cfg.sortGroupsByLabel = false)
    (train : Table) (dev : Option (List (String × Row))) (leaders : List String) (nan : String) (tol : Rat) :
    search (candidates cfg { rows := renT ρ train.rows, tie := train.tie } (dev.map (renT ρ))
        (nanCombinations (leaders.map ρ) (ρ nan) cfg.maxNMod)) tol
      = match search (candidates cfg train dev (nanCombinations leaders nan cfg.maxNMod)) tol with
        | .crash => .crash
        | .none => .none
        | .best ws d => .best (ws.map (renCand ρ)) d := by
  rw [nanCombinations_map, candidates_ren hρ cfg hns, search_ren]
  cases search (candidates cfg train dev (nanCombinations leaders nan cfg.maxNMod)) tol <;> rfl

/-! ## Non-vacuity -/

example : Inj (fun s => s ++ "!r") := by intro a b h; simpa using h
private def tR : Table := { rows := [("a", ⟨10, 1, 0, false⟩), ("b", ⟨10, 5, 0, false⟩), ("c", ⟨10, 9, 0, false⟩)] }
private def cfgR : Cfg := { kind := .binary, sortBy := .cramerv, minFreqMod := 1/10, maxNMod := 3, dropna := true }
example : (match search (candidates cfgR { rows := renT (fun s => s ++ "!r") tR.rows, tie := tR.tie } none
      (consecutiveCombinations (["a", "b", "c"].map (fun s => s ++ "!r")) 3)) 0 with
    | .best ws _ => ws.map (·.comb)
    | _ => []) = [[["a!r"], ["b!r"], ["c!r"]]] := by decide +kernel

end C11
