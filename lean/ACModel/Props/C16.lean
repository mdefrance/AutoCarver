import ACModel.Model.Summary
import ACModel.Model.History
import ACModel.Proofs.Except
/-
  C16 — summary() and history() truthfully describe the fitted object

  "`summary()` lists exactly the kept features; for qualitative features its (label, content) rows
  partition all known values and give for each value the label transform outputs, for quantitative
  features there is one row per fitted group with missing values shown in the group they were
  merged into, and `summary(feature)` contains rows of that feature only. For each kept feature
  `history()` holds the raw distribution and every tested combination with its association value,
  and the last combination flagged viable is exactly the fitted grouping."

  Theorems about the model of `summary` (`ACModel/Model/Summary.lean`): its rows only ever concern
  the requested features, and the (content, label) pairs `summaryEntries` lists for a qualitative
  feature come from the label table it is given (`Disc.summary` hands it the table `transform`
  uses; nothing is stated for quantitative features).
  Theorems about the model of the history (`ACModel/Model/History.lean`, namespace `HistoryThm`):
  what one round records, and that over both rounds the last entry flagged viable is the fitted
  grouping.  That the recorded association values are the exact ones, and that the code's history
  is this one, is decided by the correspondence of `harness/c16.py` against the search model of C01
  (exact re-computation of every recorded association value, last viable entry vs fitted
  `values_orders`).
-/

namespace C16
open Disc

theorem addContent_features {f : String} (q : Bool) (l c : Val) {P : String → Prop} (hf : P f) (rows : List SRow)
    (hrows : ∀ r ∈ rows, P r.feature) : ∀ r ∈ addContent rows f q l c, P r.feature := by
  fun_induction addContent rows f q l c with
  | case1 => exact List.forall_mem_singleton.2 hf
  -- case 2: `r` is the row of (`f`, `l`) and takes the content, its feature unchanged; case 3: the search goes on
  | case2 r t f q l c hkey =>
    rw [List.forall_mem_cons] at hrows ⊢
    exact ⟨by split <;> exact hrows.1, hrows.2⟩
  | case3 r t f q l c hkey ih =>
    rw [List.forall_mem_cons] at hrows ⊢
    exact ⟨hrows.1, ih hf hrows.2⟩

theorem go_features (s : Disc) (requested : List String) (rows : List SRow)
    (h : summary.go s requested = .ok rows) : ∀ r ∈ rows, r.feature ∈ requested := by
  unfold summary.go at h
  split at h
  · cases h
  · -- the loop over the requested features keeps `Q`: the rows so far are rows of requested features
    refine (Except.Post.foldlM (E := fun _ => True) (Q := fun acc : List SRow => ∀ r ∈ acc, r.feature ∈ requested)
      (fun acc f hf hacc => ?_) (List.forall_mem_nil _)).of_ok h
    split
    · -- and so does the inner loop, which adds the entries of the requested feature `f` one by one
      refine .ok (List.foldlRecOn (motive := fun a : List SRow => ∀ r ∈ a, r.feature ∈ requested) _ _ hacc ?_)
      exact fun a ha entry _ => addContent_features _ _ _ hf a ha
    · exact .error trivial

/-- **`summary(feature)` contains rows of that feature only.** -/
theorem summary_feature_only (s : Disc) (f : String) (rows : List SRow)
    (h : s.summary (some f) = .ok rows) : ∀ r ∈ rows, r.feature = f := by
  unfold Disc.summary at h
  dsimp only at h
  split at h
  · cases h
  · exact fun r hr => List.mem_singleton.1 (go_features s [f] rows h r hr)

/-- **`summary()` only lists kept features.** -/
theorem summary_features (s : Disc) (rows : List SRow) (h : s.summary none = .ok rows) :
    ∀ r ∈ rows, r.feature ∈ s.features :=
  go_features s s.features rows h

/-- Asking for a feature that was not kept (or was dropped) is refused with an AssertionError. -/
theorem summary_unknown_feature (s : Disc) (f : String) (hf : f ∉ s.features) :
    s.summary (some f) = .error (Err.assertion f) := by
  simp [Disc.summary, hf]

/-- the entries listed for a qualitative feature are (value, label) pairs of the label table
    (`Disc.summary` passes the one `transform` uses) -/
theorem qual_entries_from_table (s : Disc) (f : String) (table rawTable : LabelTable)
    (hq : f ∉ s.quant) : ∀ e ∈ s.summaryEntries f table rawTable, e ∈ table := by
  intro e he
  simp only [summaryEntries, hq, decide_false, List.append_nil, List.mem_filterMap, Bool.false_eq_true, if_false] at he
  obtain ⟨⟨v, lab⟩, hvl, hsome⟩ := he
  -- past the test on dropna and `str_nan`, then (for a string) past the test on `str_default`
  have hmatch := (Option.ite_none_left_eq_some.1 hsome).2
  cases v with
  | str x => cases (Option.ite_none_left_eq_some.1 hmatch).2; exact hvl
  | _ => cases hmatch

/-! ## Non-vacuity -/

private def s0 : Disc :=
  { features := ["c"], quant := [], qual := ["c"], orders := [("c", GL.ofList [.str "A", .str "B"])],
    outFloat := false, strNan := some "__NAN__", strDefault := some "__OTHER__", dropna := true,
    featDropna := [("c", true)], lpv := [("c", [(.str "A", .str "A"), (.str "B", .str "B")])] }
example : s0.summary none = .ok [⟨"c", false, .str "A", [.str "A"]⟩, ⟨"c", false, .str "B", [.str "B"]⟩] := by
  decide +kernel

end C16

namespace HistoryThm
open Hist

variable {α : Type}

/-- the winner is the first viable candidate in test order -/
theorem testInOrder_winner (viable : α → Bool) : ∀ l : List α, (testInOrder viable l).2 = l.find? viable := by
  intro l
  fun_induction testInOrder viable l with
  | case1 => rfl
  -- case 2: `c` is viable and wins; case 3: it is rejected and the rest is tested (`r`)
  | case2 c t hc => rw [List.find?_cons, hc]
  | case3 c t hc r ih => rw [List.find?_cons, Bool.eq_false_iff.2 hc]; exact ih

/-- **every tested combination is recorded**, in test order -/
theorem testInOrder_records_all (viable : α → Bool) : ∀ l : List α, (testInOrder viable l).1.map (·.cand) = l := by
  intro l
  fun_induction testInOrder viable l with
  | case1 => rfl
  | case2 c t => exact congrArg (c :: ·) (List.map_map.trans (List.map_id _))
  | case3 c t hc r ih => exact congrArg (c :: ·) ih

/-- the recorded flags have the shape: rejected …, at most one winner, then "Not checked" only -/
theorem testInOrder_shape (viable : α → Bool) : ∀ l : List α,
    roundShape ((testInOrder viable l).1.map (·.viability)) = true := by
  intro l
  fun_induction testInOrder viable l with
  | case1 => rfl
  | case2 c t =>
    refine List.all_eq_true.2 fun o ho => ?_
    obtain ⟨_, he, rfl⟩ := List.mem_map.1 ho
    obtain ⟨_, _, rfl⟩ := List.mem_map.1 he
    rfl
  | case3 c t hc r ih => exact ih

theorem lastViable_append (a b : List (Entry α)) : lastViable (a ++ b) = (lastViable b).or (lastViable a) := by
  simp only [lastViable, List.filter_append, List.getLast?_append, Option.map_or]

theorem lastViable_unchecked (t : List α) : lastViable (t.map (⟨·, none⟩)) = none := by
  rw [lastViable, List.filter_eq_nil_iff.2 fun e he => by
    obtain ⟨_, _, rfl⟩ := List.mem_map.1 he; exact Bool.false_ne_true]; rfl

/-- **the last (indeed the only) entry flagged viable is the winner** -/
theorem testInOrder_lastViable (viable : α → Bool) : ∀ l : List α,
    lastViable (testInOrder viable l).1 = (testInOrder viable l).2 := by
  intro l
  fun_induction testInOrder viable l with
  | case1 => rfl
  | case2 c t => exact (lastViable_append [⟨c, some true⟩] _).trans (by rw [lastViable_unchecked]; rfl)
  | case3 c t hc r ih => exact ih

theorem testInOrder_unchecked (viable : α → Bool) (R : α → α → Prop) (l : List α) (hs : l.Pairwise R) :
    ∀ e ∈ (testInOrder viable l).1, e.viability = none → ∃ w, (testInOrder viable l).2 = some w ∧ R w e.cand := by
  fun_induction testInOrder viable l with
  | case1 => nofun
  | case2 c t => exact List.forall_mem_cons.2 ⟨nofun, List.forall_mem_map.2
    fun d hd _ => ⟨c, rfl, (List.pairwise_cons.1 hs).1 d hd⟩⟩
  | case3 c t hc r ih => exact List.forall_mem_cons.2 ⟨nofun, ih (List.pairwise_cons.1 hs).2⟩

/-- an entry is left "Not checked" only if it comes after the winner in test order: with the
    candidates sorted by decreasing association, **every unchecked combination is at most as
    associated as the fitted one** -/
theorem testInOrder_unchecked_after (viable : α → Bool) (key : α → Option Rat) (le : Option Rat → Option Rat → Prop) :
    ∀ l : List α, l.Pairwise (fun a b => le (key b) (key a)) →
    ∀ e ∈ (testInOrder viable l).1, e.viability = none →
      ∃ w, (testInOrder viable l).2 = some w ∧ le (key e.cand) (key w) :=
  testInOrder_unchecked viable fun a b => le (key b) (key a)

/-- **For every kept feature the last combination flagged viable is exactly the fitted
    grouping**, over both rounds: the round on the non-missing modalities and, when it is run, the
    round that places the missing values. -/
theorem twoRounds_lastViable_is_fit (viable : α → Bool) (round1 : List α) (second : Bool) (round2 : α → List α)
    (fitted : α) (h : (twoRounds viable round1 second round2).2 = some fitted) :
    lastViable (twoRounds viable round1 second round2).1 = some fitted := by
  unfold twoRounds at h ⊢
  split at h
  · cases h
  · next w1 h1 =>
    split at h
    · rw [if_pos ‹_›, lastViable_append, testInOrder_lastViable, h]; rfl
    · rw [if_neg ‹_›, testInOrder_lastViable, h1]; exact h

/-- a dropped feature has no winner in the round that failed (so "kept" and "has a last viable
    entry in its last round" go together) -/
theorem twoRounds_dropped (viable : α → Bool) (round1 : List α) (second : Bool) (round2 : α → List α)
    (h : (twoRounds viable round1 second round2).2 = none) :
    round1.find? viable = none ∨
      (second = true ∧ ∃ w1, round1.find? viable = some w1 ∧ (round2 w1).find? viable = none) := by
  unfold twoRounds at h
  simp only [testInOrder_winner] at h
  split at h
  · next h1 => exact .inl h1
  · next w1 h1 =>
    split at h
    · next hsecond => exact .inr ⟨hsecond, w1, h1, h⟩
    · cases h

/-! ## Non-vacuity -/

-- candidates 5 (rejected), 3 (winner), 2 and 1 (not checked)
example : testInOrder (fun n : Nat => n % 3 == 0) [5, 3, 2, 1] =
    ([⟨5, some false⟩, ⟨3, some true⟩, ⟨2, none⟩, ⟨1, none⟩], some 3) := by decide +kernel
example : (twoRounds (fun n : Nat => n % 3 == 0) [5, 3, 2] true (fun w => [w + 1, w + 3, w + 6])).2 =
    some 6 := by decide +kernel
example : lastViable (twoRounds (fun n : Nat => n % 3 == 0) [5, 3, 2] true (fun w => [w + 1, w + 3, w + 6])).1 =
    some 6 := by decide +kernel

end HistoryThm
