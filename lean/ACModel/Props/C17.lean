import ACModel.Model.Update
import ACModel.Props.C13
import ACModel.Props.C04
/-
  C17 — Manual edits through update_discretizer are applied coherently

  "After any sequence of `update_discretizer` calls (mode 'group' or 'replace', on string, numeric
  or missing values) on a fitted object, transform maps the members of the discarded group to the
  kept group's label and leaves the grouping of all other rows unchanged, while 'replace' only
  renames a group. Labels, summary and the JSON round trip keep agreeing with transform after
  every edit."

  Model: `ACModel/Model/Update.lean`.  The theorems show that an edit only touches the edited
  feature's order, keeps that order a well-formed partition — the hypothesis `WF` of the C04, C06
  and C13 theorems, which therefore apply again after every edit of a history (the whole-frame C05
  theorems ask for `C05.Ready` as well, which an edit can break: replacing the `inf` leader) —, is,
  for two existing leaders of a qualitative feature, exactly `GroupedList.group`, and leaves the
  label table as it was or refreshes it from the edited orders.
-/

namespace C17
open Disc

theorem glStep_ok {g g' : GL} {op : GL.Op} (hs : glStep g op = .ok g') : (GL.step g op).1 = g' := by
  unfold glStep at hs
  split at hs
  · rename_i heq; cases hs; rw [heq]
  · cases hs

theorem glStep_WF {g g' : GL} {op : GL.Op} (h : g.WF) (hv : GL.Valid g op)
    (hs : glStep g op = .ok g') : g'.WF :=
  glStep_ok hs ▸ GL.C13_step_WF h op hv

theorem contains_val (g : GL) (v : Val) : g.contains (.val v) = true ↔ v ∈ g.values :=
  GL.any_isEqual_val

theorem ensure_WF {g : GL} (h : g.WF) (v : Val) : (ensure g v).WF := by
  unfold ensure
  split
  · exact h
  · rename_i hc
    exact (GL.append_WF' h.wf' v fun hm => hc ((contains_val g v).2 hm)).wf

theorem gtVal_self (v : Val) : gtVal v v ≠ .ok true := by
  cases v <;> simp [gtVal]

theorem keepLargest_WF {q : Bool} {sn : Option String} {o o' : GL} {d k : Val} (h : o.WF)
    (hs : keepLargest q sn o d k = .ok o') : o'.WF := by
  unfold keepLargest at hs
  split at hs
  · split at hs
    · cases hs
    · rename_i hgt
      exact glStep_WF (op := .replaceLeader k d) h (fun e => gtVal_self d (e ▸ hgt)) hs
    · cases hs; exact h
  · cases hs; exact h

theorem editGroup_WF {q : Bool} {sn : Option String} {o1 o : GL} {d k : Val} (h : o1.WF)
    (hs : editGroup q sn o1 d k = .ok o) : o.WF := by
  unfold editGroup at hs
  split at hs
  · cases hs
  · rename_i o' hg
    exact keepLargest_WF (glStep_WF (op := .group d k) (ensure_WF h d) trivial hg) hs

/-- `replace` renames the leader `d` of the group it has just made into `k`; `d ≠ k`, since
    otherwise `d` already led its own group and the edit was a no-op (`hng`) -/
theorem editReplace_WF {g o : GL} {d k : Val} (h : g.WF) (hng : g.getGroup (.val d) ≠ .val k)
    (hs : editReplace (ensure g k) d k = .ok o) : o.WF := by
  unfold editReplace at hs
  split at hs
  · cases hs
  · rename_i o' hg
    split at hs
    · cases hs
    · rename_i hgg
      refine glStep_WF (op := .replaceLeader d k) (glStep_WF (op := .group k d) (ensure_WF h k) trivial hg) ?_ hs
      rintro rfl
      by_cases hc : g.contains (.val d) = true
      · have : o' = g := by
          rw [← glStep_ok hg, ensure, if_pos hc]; simp only [GL.step, GL.group, if_true]
        exact hng (Classical.not_not.1 (this ▸ hgg))
      · exact hng (GL.C13_getGroup_unknown fun hm => hc ((contains_val g d).2 hm))

/-- **An edit keeps the order a well-formed partition.** -/
theorem editOrder_WF {g g' : GL} (h : g.WF) (q : Bool) (sn : Option String) (mode : Mode) (d k : Val)
    (he : editOrder q sn g mode d k = .ok (some g')) : g'.WF := by
  unfold editOrder at he
  split at he
  · cases he
  · rename_i hng
    cases mode with
    | group =>
      obtain ⟨o, hs, ho⟩ := Except.map_eq_ok.1 he
      exact Option.some.inj ho ▸ editGroup_WF (ensure_WF h k) hs
    | replace =>
      obtain ⟨o, hs, ho⟩ := Except.map_eq_ok.1 he
      exact Option.some.inj ho ▸ editReplace_WF h hng hs

theorem update_ok_cases {s s' : Disc} {f : String} {mode : Mode} {d k : Arg}
    (h : s.update f mode d k = .ok s') :
    ∃ dv kv fd order, editArgs s f d k = .ok (dv, kv, fd) ∧ aget? s.orders f = some order ∧
      ((editOrder (decide (f ∈ s.quant)) s.strNan order mode dv kv = .ok none ∧ s' = { s with featDropna := fd }) ∨
       (∃ o2 t, editOrder (decide (f ∈ s.quant)) s.strNan order mode dv kv = .ok (some o2) ∧
          Disc.labelsPerValues { s with featDropna := fd, orders := aset s.orders f o2 } s.outFloat = .ok t ∧
          s' = { s with featDropna := fd, orders := aset s.orders f o2, lpv := t })) := by
  unfold Disc.update at h
  split at h
  · cases h
  · rename_i dv kv fd hargs
    split at h
    · cases h
    · rename_i order ho
      refine ⟨dv, kv, fd, order, hargs, ho, ?_⟩
      split at h
      · cases h
      · rename_i he; cases h; exact .inl ⟨he, rfl⟩
      · rename_i o2 he
        obtain ⟨t, hl, rfl⟩ := Except.map_eq_ok.1 h
        exact .inr ⟨o2, t, he, hl, rfl⟩

/-- **Frame condition.** An edit leaves the orders of every other feature untouched. -/
theorem update_other_feature (s s' : Disc) (f f' : String) (mode : Mode) (d k : Arg)
    (h : s.update f mode d k = .ok s') (hne : f' ≠ f) : aget? s'.orders f' = aget? s.orders f' := by
  obtain ⟨dv, kv, fd, order, _, _, hc⟩ := update_ok_cases h
  rcases hc with ⟨_, hs⟩ | ⟨o2, t, _, _, hs⟩
  · subst hs; rfl
  · subst hs; exact (aget?_aset ..).trans (if_neg (Ne.symm hne))

/-- If every order was well formed before a successful edit, every order is well formed after it:
    the hypotheses of the C04 / C05 / C06 theorems are re-established. -/
theorem update_WF (s s' : Disc) (f : String) (mode : Mode) (d k : Arg)
    (hwf : ∀ f' g, aget? s.orders f' = some g → g.WF)
    (h : s.update f mode d k = .ok s') : ∀ f' g, aget? s'.orders f' = some g → g.WF := by
  intro f' g' hg'
  by_cases hne : f' = f
  · subst hne
    obtain ⟨dv, kv, fd, order, _, horder, hc⟩ := update_ok_cases h
    rcases hc with ⟨_, hs⟩ | ⟨o2, t, hedit, _, hs⟩
    · subst hs; exact hwf _ _ hg'
    · subst hs
      rw [aget?_aset, if_pos rfl] at hg'
      exact Option.some.inj hg' ▸ editOrder_WF (hwf _ _ horder) _ _ mode _ _ hedit
  · rw [update_other_feature s s' f f' mode d k h hne] at hg'
    exact hwf _ _ hg'

/-- The same after any history of successful edits. -/
theorem updates_WF (edits : List (String × Mode × Arg × Arg)) :
    ∀ (s s' : Disc), (∀ f' g, aget? s.orders f' = some g → g.WF) →
      edits.foldlM (fun st e => st.update e.1 e.2.1 e.2.2.1 e.2.2.2) s = .ok s' →
      ∀ f' g, aget? s'.orders f' = some g → g.WF := by
  intro s s' hwf h
  -- the invariant of the loop is the statement itself; an edit keeps it (`update_WF`), an error is not looked at
  exact (Except.Post.foldlM (Q := fun s => ∀ f' g, aget? s.orders f' = some g → g.WF)
    (fun s e _ hinv => ⟨fun hedit => update_WF s _ _ _ _ _ hinv hedit, fun _ => trivial⟩) hwf).of_ok h

/-- **Grouping two existing, distinct leaders of a qualitative feature is exactly
    `GroupedList.group`** (of a quantitative feature the larger of the two stays the leader). -/
theorem editOrder_group_leaders {g : GL} (h : g.WF) (sn : Option String) {d k : Val} (hd : d ∈ g.lst)
    (hk : k ∈ g.lst) (hdk : d ≠ k) : editOrder false sn g .group d k = .ok (some (g.group d k).1) := by
  have h' := h.wf'
  have hgd : g.getGroup (.val d) ≠ .val k := by
    rw [GL.C13_getGroup_agrees h (h'.mem_get hd) (h'.mem_get_self hd)]; exact fun e => hdk (Arg.val.inj e)
  have hck : g.contains (.val k) = true := (contains_val g k).2 (GL.mem_values_of_mem_get (h'.mem_get_self hk))
  have hcd : g.contains (.val d) = true := (contains_val g d).2 (GL.mem_values_of_mem_get (h'.mem_get_self hd))
  -- the step cannot raise: both are in the list
  have hstep : glStep g (.group d k) = .ok (g.group d k).1 := by
    simp only [glStep, GL.step, GL.group_of_mem (fun _ => h.wf'.mem_keys) hdk hd hk]
  -- `editOrder` step by step: `d` is not yet in `k`'s group (`hgd`), `ensure` has nothing to append (`hck`,
  -- `hcd`), the `group` step (`hstep`), and `keepLargest` leaves a qualitative order alone
  simp only [editOrder, hgd, if_false, ensure, hck, hcd, if_true, editGroup, hstep, keepLargest, Bool.false_and]
  rfl

/-- After a successful edit the label table is the old one or the one computed from the edited
    orders (`update_ok_cases` says which). -/
theorem update_refreshes_labels (s s' : Disc) (f : String) (mode : Mode) (d k : Arg)
    (h : s.update f mode d k = .ok s') :
    s'.lpv = s.lpv ∨ s'.labelsPerValues s'.outFloat = .ok s'.lpv := by
  obtain ⟨dv, kv, fd, order, _, _, hc⟩ := update_ok_cases h
  rcases hc with ⟨_, hs⟩ | ⟨o2, t, _, hl, hs⟩
  · subst hs; exact Or.inl rfl
  · subst hs; exact Or.inr hl

/-- **`group` merges the discarded group into the kept one**: afterwards the kept leader's group
    is the members of the discarded group followed by its own. -/
theorem group_merges_members {g : GL} (h : g.WF) {d k : Val} (hd : d ∈ g.lst) (hk : k ∈ g.lst) (hdk : d ≠ k) :
    (g.group d k).1.get k = g.get d ++ g.get k := by
  rw [GL.group_of_mem (fun _ => h.wf'.mem_keys) hdk hd hk, GL.get_put, if_pos rfl]

theorem group_keeps_other_groups {g : GL} (h : g.WF) {d k l : Val} (hd : d ∈ g.lst) (hk : k ∈ g.lst) (hdk : d ≠ k)
    (hld : l ≠ d) (hlk : l ≠ k) : (g.group d k).1.get l = g.get l := by
  rw [GL.group_of_mem (fun _ => h.wf'.mem_keys) hdk hd hk, GL.get_put, if_neg (Ne.symm hlk), GL.get_del_of_ne _ hld]

/-- **After `group d k` the members of the discarded group carry the kept group's label** (and so
    do the kept group's own members): whatever position `i` the kept leader has in the edited order,
    every such value is transformed into the `i`-th label.  With `C04.transform_seen_qual` this is
    the statement about `transform` on whole frames. -/
theorem group_edit_label {g : GL} (h : g.WF) {d k : Val} (hd : d ∈ g.lst) (hk : k ∈ g.lst) (hdk : d ≠ k)
    (labels : List Val) (strNan strDefault : Option String) (i : Nat) (hi : i < (g.group d k).1.lst.length)
    (hl : i < labels.length) (hik : (g.group d k).1.lst[i] = k) (v : Val) (hv : v ∈ g.get d ∨ v ∈ g.get k) :
    Disc.qualCell (Disc.tableOf (g.group d k).1 labels) (Disc.qualPrepared (g.group d k).1 strNan strDefault (some v)) =
      some labels[i] := by
  have hwf2 : (g.group d k).1.WF := (GL.group_WF' h.wf' d k).wf
  apply C04.qualCell_member (g.group d k).1 hwf2 labels strNan strDefault i hi hl v
  rw [hik, group_merges_members h hd hk hdk]
  exact List.mem_append.2 hv

/-! ## Non-vacuity -/

private def g0 : GL := GL.ofList [.str "a", .str "b", .str "c"]
example : editOrder false none g0 .group (.str "a") (.str "b") =
    .ok (some ⟨[.str "b", .str "c"], [(.str "b", [.str "a", .str "b"]), (.str "c", [.str "c"])]⟩) := by decide +kernel
example : editOrder false none g0 .replace (.str "a") (.str "new") =
    .ok (some ⟨[.str "new", .str "b", .str "c"],
      [(.str "b", [.str "b"]), (.str "c", [.str "c"]), (.str "new", [.str "new", .str "a"])]⟩) := by decide +kernel
example : g0.WF := by decide +kernel
-- grouping the `inf` bucket into the previous quantile keeps `inf` as the leader
example : editOrder true (some "__NAN__") (GL.ofList [.num 3, .num 9, .inf]) .group .inf (.num 9) =
    .ok (some ⟨[.num 3, .inf], [(.num 3, [.num 3]), (.inf, [.inf, .num 9])]⟩) := by decide +kernel

end C17
