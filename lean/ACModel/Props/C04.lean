import ACModel.Spec.Discretizer
import ACModel.Proofs.GroupedList
import ACModel.Proofs.Frame
import ACModel.Proofs.Fit
/-
  C04 — transform is exactly the mapping described by the fitted values_orders

  "For any fitted discretizer or carver and any row whose values were seen at fit, transform
  returns the label of the unique group of `values_orders` containing the value (for quantitative
  features: the first group whose upper bound is >= the value), numeric-looking qualitative values
  being matched through their string form. Distinct groups always receive distinct labels ('float'
  labels are the group's rank in the fitted order), and missing values receive their group's label
  when dropna=True and stay missing when dropna=False."

  Model: `ACModel/Model/Discretizer.lean` (`labelsOf`, `tableOf`, `selectPure`, `transformQuantCol`,
  `transformQualCol`).  Of `ACModel/Spec/Discretizer.lean` the theorems use `quantGroup` alone; its
  other predicates (`expectedCell`, `badRows`, `tableOk` …) are what the driver evaluates on the
  implementation's output (`judge.C04`), and no theorem relates them to the model.
-/

namespace C04
open Disc Spec

/-- **`select` semantics = the specification.** The label looked up for a number `x` is the
    label of the specification's group of `x` (`quantGroup`: first non-`str_nan` leader `≥ x`). -/
theorem selectPure_eq_spec (g : GL) (strNan : Option String) (table : LabelTable) (x : Val) :
    selectPure (g.lst.filter (neNan strNan)) table x =
      (match quantGroup g strNan x with
       | some l => (aget? table l).getD rawMarker
       | none => rawMarker) := rfl

/-- **Totality (the `+inf` sentinel).** When `inf` is among the leaders every number (or `inf`)
    gets the label of some leader `≥` it: nothing leaks. -/
theorem selectPure_total (leaders : List Val) (table : LabelTable) (x : Val)
    (hx : ∀ s, x ≠ .str s) (hinf : Val.inf ∈ leaders) :
    ∃ l ∈ leaders, leVal x l = true ∧ selectPure leaders table x = (aget? table l).getD rawMarker := by
  unfold selectPure
  have hle : leVal x .inf = true := by
    cases x <;> simp_all [leVal]
  cases hf : leaders.find? (fun l => leVal x l) with
  | none =>
    have := List.find?_eq_none.1 hf .inf hinf
    simp [hle] at this
  | some l =>
    exact ⟨l, List.mem_of_find?_eq_some hf, by simpa using List.find?_some hf, rfl⟩

/-- The leader found is the *first* one `≥ x`: every earlier leader is `< x`. -/
theorem selectPure_first (leaders : List Val) (table : LabelTable) (x : Val) {l : Val}
    (hf : leaders.find? (fun l => leVal x l) = some l) :
    ∃ pre post, leaders = pre ++ l :: post ∧ ∀ a ∈ pre, leVal x a = false := by
  obtain ⟨hp, pre, post, heq, hpre⟩ := List.find?_eq_some_iff_append.1 hf
  exact ⟨pre, post, heq, fun a ha => by simpa using hpre a ha⟩

/-- A quantitative column without strings, in a state whose leaders all carry a label, is never
    rejected except by the missing-value assertion, and its output is the cell-wise lookup. -/
theorem transformQuantCol_ok (f : String) (g : GL) (table : LabelTable) (strNan : Option String)
    (col : Col) (hnan : (col.any Option.isNone && !(g.contains (nanArgOf strNan))) = false)
    (hstr : (g.lst.filter (neNan strNan)).any Val.isStr = false)
    (hcol : col.any cellIsStr = false)
    (htab : (g.lst.filter (neNan strNan)).any (fun l => (aget? table l).isNone) = false) :
    transformQuantCol f g table strNan col = .ok (col.map (quantCell g table strNan)) :=
  transformQuantCol_eq_ok.2 ⟨hnan, by rw [hstr, hcol]; rfl, htab, rfl⟩

/-- The only `AssertionError` a quantitative column can raise is the missing-value one, naming the feature. -/
theorem transformQuantCol_assert (f : String) (g : GL) (table : LabelTable) (strNan : Option String)
    (col : Col) (m : String) (h : transformQuantCol f g table strNan col = .error (.assertion m)) :
    m = f ∧ col.any Option.isNone = true ∧ g.contains (nanArgOf strNan) = false := by
  obtain ⟨hm, hc⟩ := transformQuantCol_eq_assertion.1 h
  rw [Bool.and_eq_true, Bool.not_eq_eq_eq_not] at hc
  exact ⟨hm, hc⟩

theorem labelsOf_float (g : GL) (isQuant : Bool) (strNan : Option String) {labels : List Val}
    (h : labelsOf g isQuant strNan true = .ok labels) :
    ∃ n, labels = (List.range n).map (fun i => Val.num ((i : Nat) : Rat)) := by
  obtain ⟨base, _, rfl⟩ := Except.map_eq_ok.1 h
  exact ⟨_, rfl⟩

theorem float_labels_nodup (n : Nat) :
    ((List.range n).map (fun i => Val.num ((i : Nat) : Rat))).Nodup := by
  rw [List.Nodup, List.pairwise_map]
  refine List.Pairwise.imp ?_ List.nodup_range
  intro a b hab e
  injection e with e
  exact hab (by exact_mod_cast e)

/-- `float` labels are the ranks `0, 1, 2, …` in order: the `i`-th label is `i`. -/
theorem float_label_is_rank (n i : Nat) (hi : i < n) :
    ((List.range n).map (fun i => Val.num ((i : Nat) : Rat)))[i]? = some (Val.num (i : Rat)) := by
  simp [hi]

theorem labelsOf_qual_str (g : GL) (strNan : Option String) :
    labelsOf g false strNan false = .ok (withNanLabel g strNan (g.lst.filter (neNan strNan))) := by
  simp [labelsOf, Except.map, finalLabels]

theorem neNan_false_iff {strNan : Option String} {v : Val} :
    neNan strNan v = false ↔ ∃ s, strNan = some s ∧ v = .str s := by
  cases strNan <;> cases v <;> simp [neNan]
  -- left: `some s` and `.str t`, where `neNan` compares `s` with `t` and the right side says `t = s`
  exact eq_comm

/-- With unique leaders (`WF`) the qualitative `str` labels are pairwise distinct. -/
theorem qual_str_labels_nodup (g : GL) (hwf : g.WF) (strNan : Option String) {labels : List Val}
    (h : labelsOf g false strNan false = .ok labels) : labels.Nodup := by
  rw [labelsOf_qual_str] at h
  cases h
  have hf : (g.lst.filter (neNan strNan)).Nodup := hwf.wf'.nodup_lst.filter _
  unfold withNanLabel
  cases strNan with
  | none => exact hf
  | some s =>
    show (if Val.str s ∈ g.lst then _ ++ [Val.str s] else _).Nodup
    split
    · -- the filter has taken `str_nan` out of the leaders
      exact hf.concat fun ha => by simpa [neNan] using (List.mem_filter.1 ha).2
    · exact hf

/-! ## Non-vacuity -/

private def tbl : LabelTable := [(.num 1, .str "x <= 1"), (.num 5, .str "1 < x <= 5"), (.inf, .str "5 < x")]

example : selectPure [.num 1, .num 5, .inf] tbl (.num 3) = .str "1 < x <= 5" := by decide +kernel
example : selectPure [.num 1, .num 5, .inf] tbl (.num 1) = .str "x <= 1" := by decide +kernel
example : selectPure [.num 1, .num 5, .inf] tbl (.num 1000) = .str "5 < x" := by decide +kernel
example : transformQuantCol "f" (GL.ofList [.num 1, .num 5, .inf]) tbl (some "__NAN__")
    [some (.num 3), some (.num 7)] = .ok [some (.str "1 < x <= 5"), some (.str "5 < x")] := by decide +kernel

/-- **Every member of the `i`-th group receives the `i`-th label** — the link between
    `values_orders` and what `transform` looks up (quantitative: by leader; qualitative: by value). -/
theorem tableOf_member (g : GL) (hwf : g.WF) (labels : List Val) (i : Nat) (hi : i < g.lst.length)
    (hl : i < labels.length) (v : Val) (hv : v ∈ g.get g.lst[i]) :
    aget? (tableOf g labels) v = some labels[i] := by
  have hz : i < (g.lst.zip labels).length := by rw [List.length_zip]; omega
  -- the groups being disjoint, the `i`-th (leader, label) pair is the only one whose group holds `v`
  have honly : ∀ gl ∈ g.lst.zip labels, v ∈ g.get gl.1 → some gl.2 = some labels[i] := by
    intro gl hgl hv'
    obtain ⟨j, hj, rfl⟩ := List.getElem_of_mem hgl
    rw [List.getElem_zip] at hv' ⊢
    obtain rfl : j = i := (List.getElem_inj hwf.wf'.nodup_lst).1 (hwf.wf'.eq_of_mem_get hv' hv)
    rfl
  unfold tableOf
  -- the slot is the entry under `v`; the step of a pair writes its label there when its group holds `v`
  rw [List.foldl_get (get := (aget? · v)) (w := fun gl : Val × Val => v ∈ g.get gl.1) (val := fun gl => some gl.2)
    (v := some labels[i]) _ _ (fun gl _ acc => aget?_foldl_aset gl.2 (g.get gl.1) acc v) honly,
    if_pos ⟨(g.lst.zip labels)[i], List.getElem_mem hz, by rw [List.getElem_zip]; exact hv⟩]

/-- **Qualitative cell**: a member of the `i`-th group gets the `i`-th label. -/
theorem qualCell_member (g : GL) (hwf : g.WF) (labels : List Val) (strNan strDefault : Option String)
    (i : Nat) (hi : i < g.lst.length) (hl : i < labels.length) (v : Val) (hv : v ∈ g.get g.lst[i]) :
    qualCell (tableOf g labels) (qualPrepared g strNan strDefault (some v)) = some labels[i] := by
  -- `v` is a known value, so `qualPrepared` leaves it as it is; `qualCell` then looks it up in the table
  simp only [qualPrepared, GL.mem_values_of_mem_get hv, not_true_eq_false, decide_false, Bool.false_and,
    Bool.false_eq_true, if_false, qualCell,
    tableOf_member g hwf labels i hi hl v hv, Option.getD_some]

/-- **Quantitative cell**: a number whose first leader `≥` it is the `i`-th leader gets the `i`-th
    label (right-closed intervals: `leader (i-1) < x ≤ leader i`). -/
theorem quantCell_member (g : GL) (hwf : g.WF) (labels : List Val) (strNan : Option String)
    (i : Nat) (hi : i < g.lst.length) (hl : i < labels.length) (x : Val)
    (hx : (g.lst.filter (neNan strNan)).find? (fun l => leVal x l) = some g.lst[i]) :
    quantCell g (tableOf g labels) strNan (some x) = some labels[i] := by
  simp only [quantCell, selectPure, hx, tableOf_member g hwf labels i hi hl _
      (hwf.wf'.mem_get_self (List.getElem_mem hi)),
    Option.getD_some]

/-- **Qualitative column**: the same for every row of an accepted column. -/
theorem transformQualCol_member (f : String) (g : GL) (hwf : g.WF) (labels : List Val)
    (strNan strDefault : Option String)
    (cin cout : Col) (h : transformQualCol f g (tableOf g labels) strNan strDefault cin = .ok cout)
    (k i : Nat) (hi : i < g.lst.length) (hl : i < labels.length) (v : Val)
    (hk : cin[k]? = some (some v)) (hv : v ∈ g.get g.lst[i]) : cout[k]? = some (some labels[i]) := by
  rw [(transformQualCol_eq_ok.1 h).2, List.getElem?_map, List.getElem?_map, hk, Option.map_some, Option.map_some,
    qualCell_member g hwf labels strNan strDefault i hi hl v hv]

/-- **Quantitative column**: the same for every row of an accepted column. -/
theorem transformQuantCol_member (f : String) (g : GL) (hwf : g.WF) (labels : List Val) (strNan : Option String)
    (cin cout : Col) (h : transformQuantCol f g (tableOf g labels) strNan cin = .ok cout)
    (k i : Nat) (hi : i < g.lst.length) (hl : i < labels.length) (x : Val)
    (hk : cin[k]? = some (some x))
    (hx : (g.lst.filter (neNan strNan)).find? (fun l => leVal x l) = some g.lst[i]) :
    cout[k]? = some (some labels[i]) := by
  rw [(transformQuantCol_eq_ok.1 h).2.2.2, List.getElem?_map, hk, Option.map_some,
    quantCell_member g hwf labels strNan i hi hl x hx]

/-- what the last step of `transform` (missing values re-instated where `features_dropna[f]` is
    False) does to a cell of feature `fd.1`: the cells carrying the label of the missing-value
    marker become missing again -/
def nanFixOf (s : Disc) (fd : String × Bool) : Cell → Cell :=
  if fd.2 then id else
  match aget? s.lpv fd.1 with
  | none => id
  | some t => match nanVal s.strNan with
    | none => id
    | some n => match aget? t n with
      | some lab => fun cell => if cell = some lab then none else cell
      | none => id

/-- `nanFixOf` for the entry of `f` in `features_dropna`; the identity if `f` has none -/
def nanFix (s : Disc) (f : String) : Cell → Cell :=
  match s.featDropna.find? (fun fd => fd.1 = f) with
  | some fd => nanFixOf s fd
  | none => id

theorem nUpd_eq (s : Disc) (fd : String × Bool) (c : Col) :
    nUpd s fd c = (nMiss s fd).map fun _ => c.map (nanFixOf s fd) := by
  unfold nUpd nMiss nanFixOf
  split
  · exact congrArg Except.ok (List.map_id c).symm
  · cases aget? s.lpv fd.1 with
    | none => rfl
    | some t =>
      cases nanVal s.strNan with
      | none => exact congrArg Except.ok (List.map_id c).symm
      | some n =>
        dsimp only
        cases aget? t n with
        | none => exact congrArg Except.ok (List.map_id c).symm
        | some lab => rfl

theorem nUpd_eq_map (s : Disc) (fd : String × Bool) (c c' : Col) (h : nUpd s fd c = .ok c') :
    c' = c.map (nanFixOf s fd) := by
  rw [nUpd_eq] at h
  obtain ⟨_, _, e⟩ := Except.map_eq_ok.1 h
  exact e.symm

theorem colTransform_eq_ok {s : Disc} {f : String} {c c' : Col} (h : colTransform s f c = .ok c') :
    ∃ c1 c2, (if f ∈ s.quant then qUpd s f c else .ok c) = .ok c1 ∧
      (if f ∈ s.qual then lUpd s f c1 else .ok c1) = .ok c2 ∧ c' = c2.map (nanFix s f) := by
  unfold colTransform at h
  simp only [Except.bind_eq_ok] at h
  obtain ⟨c1, h1, c2, h2, h3⟩ := h
  refine ⟨c1, c2, h1, h2, ?_⟩
  unfold nanFix
  split at h3
  · rename_i fd hfd
    rw [hfd]
    exact nUpd_eq_map s fd c2 c' h3
  · rename_i hfd
    rw [hfd]
    exact (Except.ok.inj h3).symm.trans (List.map_id c2).symm

theorem nanFixOf_eq_or (s : Disc) (fd : String × Bool) (cell : Cell) :
    nanFixOf s fd cell = cell ∨ nanFixOf s fd cell = none := by
  unfold nanFixOf
  cases fd.2 with
  | true => exact .inl rfl
  | false =>
    cases aget? s.lpv fd.1 with
    | none => exact .inl rfl
    | some t =>
      cases nanVal s.strNan with
      | none => exact .inl rfl
      | some n =>
        dsimp only
        cases aget? t n with
        | none => exact .inl rfl
        | some lab =>
          by_cases h : cell = some lab
          · exact .inr (if_pos h)
          · exact .inl (if_neg h)

theorem nanFix_eq_or (s : Disc) (f : String) (cell : Cell) : nanFix s f cell = cell ∨ nanFix s f cell = none := by
  unfold nanFix
  cases s.featDropna.find? (fun fd : String × Bool => fd.1 = f) with
  | none => exact .inl rfl
  | some fd => exact nanFixOf_eq_or s fd cell

/-- after `BaseDiscretizer.fit`, the label table of a fitted feature is `tableOf` of its order and
    of the labels `labelsOf` computes -/
theorem fit_lpv (s s' : Disc) (hfit : s.fit = .ok s') (f : String) (hf : f ∈ s.features) (g : GL)
    (hg : aget? s.orders f = some g) :
    ∃ labels, labelsOf g (decide (f ∈ s.quant)) s.strNan s.outFloat = .ok labels ∧
      aget? s'.lpv f = some (tableOf g labels) := by
  obtain ⟨-, t, ht, rfl⟩ := Disc.fit_eq_ok.1 hfit
  obtain ⟨tb, hv, ho⟩ := (if_pos hf).mp (MultiLemmas.labelsPerValues_entry ht f)
  rw [MultiLemmas.tableRes, hg] at hv
  obtain ⟨labels, hl, rfl⟩ := Except.map_eq_ok.1 hv
  exact ⟨labels, hl, ho⟩

open FrameLemmas

theorem transform_qual_col {s : Disc} (hs : s.Shape) {f : String} (hf : f ∈ s.qual) (hnq : f ∉ s.quant)
    {g : GL} {t : LabelTable} (hg : aget? s.orders f = some g) (ht : aget? s.lpv f = some t)
    {x0 x out : Frame} (hc : s.castFeatures x0 = .ok x) (htr : s.transform x0 = .ok out)
    {cin : Col} (hcin : aget? x f = some cin) :
    ∃ c2, transformQualCol f g t s.strNan s.strDefault cin = .ok c2 ∧ aget? out f = some (c2.map (nanFix s f)) := by
  obtain ⟨cout, hct, hout⟩ := ((transform_spec s hs x0 x out hc htr).2 f).1 cin hcin
  obtain ⟨c1, c2, h1, h2, rfl⟩ := colTransform_eq_ok hct
  rw [if_neg hnq] at h1
  cases h1
  rw [if_pos hf, lUpd_of_some hg ht] at h2
  exact ⟨c2, h2, hout⟩

theorem transform_quant_col {s : Disc} (hs : s.Shape) {f : String} (hf : f ∈ s.quant) (hnq : f ∉ s.qual)
    {g : GL} {t : LabelTable} (hg : aget? s.orders f = some g) (ht : aget? s.lpv f = some t)
    {x0 x out : Frame} (hc : s.castFeatures x0 = .ok x) (htr : s.transform x0 = .ok out)
    {cin : Col} (hcin : aget? x f = some cin) :
    ∃ c1, transformQuantCol f g t s.strNan cin = .ok c1 ∧ aget? out f = some (c1.map (nanFix s f)) := by
  obtain ⟨cout, hct, hout⟩ := ((transform_spec s hs x0 x out hc htr).2 f).1 cin hcin
  obtain ⟨c1, c2, h1, h2, rfl⟩ := colTransform_eq_ok hct
  rw [if_pos hf, qUpd_of_some hg ht] at h1
  rw [if_neg hnq] at h2
  cases h2
  exact ⟨c1, h1, hout⟩

/-- **`transform` is the mapping `values_orders` describes — qualitative features, whole frame.**
    In every accepted frame, every row whose value belongs to the `i`-th group of a fitted
    qualitative feature comes out with the `i`-th label (or missing again, when that label is the
    one of the missing values and `features_dropna[f]` is False). -/
theorem transform_seen_qual (s : Disc) (hs : s.Shape) (f : String) (hf : f ∈ s.qual) (hnq : f ∉ s.quant)
    (g : GL) (hg : aget? s.orders f = some g) (hwf : g.WF) (labels : List Val)
    (ht : aget? s.lpv f = some (tableOf g labels))
    (x0 x out : Frame) (hc : s.castFeatures x0 = .ok x) (htr : s.transform x0 = .ok out)
    (cin : Col) (hcin : aget? x f = some cin)
    (k i : Nat) (hi : i < g.lst.length) (hl : i < labels.length) (v : Val)
    (hk : cin[k]? = some (some v)) (hv : v ∈ g.get g.lst[i]) :
    ∃ cout, aget? out f = some cout ∧ cout[k]? = some (nanFix s f (some labels[i])) := by
  obtain ⟨c2, h2, hout⟩ := transform_qual_col hs hf hnq hg ht hc htr hcin
  refine ⟨_, hout, ?_⟩
  rw [List.getElem?_map, transformQualCol_member f g hwf labels s.strNan s.strDefault cin c2 h2 k i hi hl v hk hv,
    Option.map_some]

/-- **The same for quantitative features**: every row holding a number whose first boundary `≥` it
    is the `i`-th leader comes out with the `i`-th label (right-closed intervals). -/
theorem transform_seen_quant (s : Disc) (hs : s.Shape) (f : String) (hf : f ∈ s.quant) (hnq : f ∉ s.qual)
    (g : GL) (hg : aget? s.orders f = some g) (hwf : g.WF) (labels : List Val)
    (ht : aget? s.lpv f = some (tableOf g labels))
    (x0 x out : Frame) (hc : s.castFeatures x0 = .ok x) (htr : s.transform x0 = .ok out)
    (cin : Col) (hcin : aget? x f = some cin)
    (k i : Nat) (hi : i < g.lst.length) (hl : i < labels.length) (v : Val)
    (hk : cin[k]? = some (some v))
    (hv : (g.lst.filter (neNan s.strNan)).find? (fun l => leVal v l) = some g.lst[i]) :
    ∃ cout, aget? out f = some cout ∧ cout[k]? = some (nanFix s f (some labels[i])) := by
  obtain ⟨c1, h1, hout⟩ := transform_quant_col hs hf hnq hg ht hc htr hcin
  refine ⟨_, hout, ?_⟩
  rw [List.getElem?_map, transformQuantCol_member f g hwf labels s.strNan cin c1 h1 k i hi hl v hk hv,
    Option.map_some]

end C04
