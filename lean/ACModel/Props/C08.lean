import ACModel.Props.C03
import ACModel.Proofs.Quantiles
import ACModel.Props.C13
import ACModel.Proofs.Fit
/-
  C08 — fit ends in a coherent fitted object or a clean AssertionError

  "On any well-formed input (finite numbers or NaN in quantitative columns, strings or numbers in
  qualitative columns, a valid target; including constant, all-missing, highly discrete or
  near-unique columns) fit either completes or raises AssertionError, never an internal error.
  After completion all per-feature attributes (features, values_orders, input_dtypes, labels,
  summary, history) refer to exactly the kept features, each `values_orders` entry is a well-formed
  ordered partition (unique leaders, disjoint groups, each leader in its own group) covering every
  training value, and dropped features are left untouched by transform."

  What is proved on the model: removing a feature removes it from *every* attribute and touches no
  other feature; the label table built by the final `BaseDiscretizer.fit` has exactly the kept
  features as keys; each base discretizer as a whole composition (`Model/Pipeline.lean`) ends in a
  well-formed ordered partition or raises an AssertionError (the `*_WF` and `*_error_is_assertion`
  theorems).  For the ordinal and the quantile pipeline the two are readings of one contract
  (`post_ordinalOrder`, `post_quantOrderQ`); the categorical pipeline is composed from the contracts
  of its three parts (`post_catPrepare`, `post_catGroupRare`, `post_catSort`); `contOrder` is a
  total function (`contOrder_WF`).  `stringOrder` is modelled but not covered.  The numeric cores
  are total functions (C09) and the carving search raises only if a measure does
  (`C01.search_crash_iff`; that the repaired `Carve.measure` never does is read off its definition,
  no theorem states it).  What pandas / numpy do around the modelled calls is decided by the
  correspondence only (partial).
-/

namespace C08
open Disc

/-- **A removed feature is absent from every per-feature attribute.** -/
theorem removeFeature_all_attributes (s : Disc) (f : String) (hf : f ∈ s.features) :
    f ∉ (s.removeFeature f).features ∧ f ∉ (s.removeFeature f).quant ∧ f ∉ (s.removeFeature f).qual ∧
    aget? (s.removeFeature f).orders f = none ∧ aget? (s.removeFeature f).lpv f = none ∧
    aget? (s.removeFeature f).featDropna f = none ∧ ∀ c ∈ (s.removeFeature f).casting, f ∉ c.2 := by
  have hm (l : List String) : f ∉ l.filter (· ≠ f) := fun h => of_decide_eq_true (List.mem_filter.1 h).2 rfl
  have he {β : Type} (l : List (String × β)) : aget? (aerase l f) f = none := (aget?_aerase l f f).trans (if_pos rfl)
  rw [removeFeature, if_neg (not_not_intro hf)]
  refine ⟨hm _, hm _, hm _, he _, he _, he _, fun c hc => ?_⟩
  obtain ⟨c0, _, hg⟩ := List.mem_filterMap.1 hc
  by_cases h0 : f ∈ c0.2
  · rw [if_pos h0] at hg
    split at hg
    · cases hg
    · cases hg; exact hm _
  · rw [if_neg h0] at hg
    cases hg; exact h0

/-- **Nothing else is touched**: every other feature keeps its membership, order, labels. -/
theorem removeFeature_frame (s : Disc) (f g : String) (hg : g ≠ f) :
    (g ∈ (s.removeFeature f).features ↔ g ∈ s.features) ∧ (g ∈ (s.removeFeature f).quant ↔ g ∈ s.quant) ∧
    (g ∈ (s.removeFeature f).qual ↔ g ∈ s.qual) ∧
    aget? (s.removeFeature f).orders g = aget? s.orders g ∧ aget? (s.removeFeature f).lpv g = aget? s.lpv g ∧
    aget? (s.removeFeature f).featDropna g = aget? s.featDropna g := by
  have hm (l : List String) : g ∈ l.filter (· ≠ f) ↔ g ∈ l := List.mem_filter.trans (and_iff_left (decide_eq_true hg))
  have he {β : Type} (l : List (String × β)) : aget? (aerase l f) g = aget? l g :=
    (aget?_aerase l f g).trans (if_neg (Ne.symm hg))
  rw [removeFeature]
  by_cases hf : f ∈ s.features
  · rw [if_neg (not_not_intro hf)]
    exact ⟨hm _, hm _, hm _, he _, he _, he _⟩
  · rw [if_pos hf]
    exact ⟨.rfl, .rfl, .rfl, rfl, rfl, rfl⟩

/-- **The label table refers to exactly the kept features** whenever `BaseDiscretizer.fit`
    succeeds. -/
theorem labelsPerValues_keys (s : Disc) (b : Bool) (t : List (String × LabelTable))
    (h : s.labelsPerValues b = .ok t) : ∀ f, f ∈ akeys t ↔ f ∈ s.features := by
  intro f
  have := MultiLemmas.labelsPerValues_entry h f
  rw [mem_akeys]
  split at this
  · next hf =>
    obtain ⟨v, _, ho⟩ := this
    exact ⟨fun _ => hf, fun _ => ⟨v, ho⟩⟩
  · next hf => exact ⟨fun ⟨v, hv⟩ => (nomatch this.symm.trans hv), fun h => absurd h hf⟩

/-- the only way `BaseDiscretizer.fit` (the last step of every fit) fails is the
    missing-`values_orders` AssertionError, or a label table that cannot be built -/
theorem fit_error_cases (s : Disc) (e : Err) (h : s.fit = .error e) :
    e = Err.assertion "Missing values_orders" ∨ s.labelsPerValues s.outFloat = .error e :=
  (Disc.fit_eq_error.1 h).imp (·.2) (·.2)

theorem fit_labels_keys (s s' : Disc) (h : s.fit = .ok s') : ∀ f, f ∈ akeys s'.lpv ↔ f ∈ s'.features := by
  obtain ⟨-, t, ht, rfl⟩ := Disc.fit_eq_ok.1 h
  exact labelsPerValues_keys s s.outFloat t ht

open Except (Post)
open Err (IsAssertion)

theorem group_error_is_assertion {g : GL} (h : g.WF') (d k : Val) (e : Err) (he : (g.group d k).2 = some e) :
    ∃ m, e = Err.assertion m :=
  (GL.C13_error_keeps_state_group h.wf d k he).2

theorem groupList_error_is_assertion : ∀ (ds : List Val) (g : GL), g.WF' → ∀ (k : Val) (e : Err),
    (g.groupList ds k).2 = some e → ∃ m, e = Err.assertion m :=
  fun ds _ h k => (GL.groupList_induction (P := GL.WF')
    (fun _ d hg => ⟨GL.group_WF' hg d k, group_error_is_assertion hg d k⟩) ds h).2

/-- the three refusals of `sort_by` (two of its own, one of the dict constructor) are assertions -/
theorem sortBy_error_is_assertion (g : GL) (o : List Val) (e : Err)
    (h : g.sortBy o = .error e) : ∃ m, e = Err.assertion m := by
  suffices Post IsAssertion (fun _ => True) (g.sortBy o) from this.of_error h
  -- the two tests of `sort_by`, then the test of `GL.ofDict`; past them there is a value
  refine .ite (fun _ => .error ⟨_, rfl⟩) fun _ => ?_
  refine .ite (fun _ => .error ⟨_, rfl⟩) fun _ => ?_
  exact .ite (fun _ => .error ⟨_, rfl⟩) fun _ => .ok trivial

/-- `group_list` on a well-formed order, lifted into `Except` the way the pipelines do -/
theorem post_groupList {g : GL} (h : g.WF') (ds : List Val) (k : Val) :
    Post IsAssertion GL.WF' (match g.groupList ds k with
      | (g', none) => pure g'
      | (_, some e) => throw e) := by
  have hw := GL.groupList_WF' h ds k
  have he := groupList_error_is_assertion ds g h k
  generalize g.groupList ds k = r at hw he
  obtain ⟨g', _ | e⟩ := r
  · exact .ok hw
  · exact .error (he e rfl)

theorem contOrder_lst (h : Pipeline.QHist) (nNan q : Nat) (strNan : String) :
    (Pipeline.contOrder h nNan q strNan).lst =
      (BaseDisc.findQuantiles (Pipeline.hist h) (BaseDisc.total (Pipeline.hist h) + nNan) q).map Val.num ++ [Val.inf] ++
        (if nNan > 0 then [Val.str strNan] else []) := by
  unfold Pipeline.contOrder
  dsimp only
  split <;> simp [GL.append, GL.ofList]

/-- `ContinuousDiscretizer`: the fitted order of every feature is well formed -/
theorem contOrder_WF (h : Pipeline.QHist) (nNan q : Nat) (strNan : String) :
    (Pipeline.contOrder h nNan q strNan).WF := by
  unfold Pipeline.contOrder
  dsimp only
  generalize hqs : BaseDisc.findQuantiles _ _ q = qs
  -- the leaders are distinct: strictly increasing quantiles, then `+inf`
  have hs : qs.Pairwise (· < ·) := hqs ▸ BaseDisc.strictSorted_dedupSorted (BaseDisc.sorted_sortRats _)
  have hq : qs.Nodup := hs.imp (S := (· ≠ ·)) fun hab e => Rat.lt_irrefl (e ▸ hab)
  have hn : (qs.map Val.num ++ [Val.inf]).Nodup := by
    refine List.nodup_append.2 ⟨hq.map Val.num fun _ _ hab e => hab (Val.num.inj e), List.pairwise_singleton _ _,
      fun a ha b hb e => ?_⟩
    obtain ⟨x, _, rfl⟩ := List.mem_map.1 ha
    cases List.mem_singleton.1 hb ▸ e
  split
  · exact (GL.append_WF' (GL.ofList_WF' hn) _ (by simp [GL.values_ofList hn])).wf
  · exact (GL.ofList_WF' hn).wf

/-- every group left by `find_common_modalities` has at least one label -/
theorem findCommonModalities_nonempty {α : Type} (labels : List α) (stats : List BaseDisc.Stat)
    (lenDf : Nat) (minFreq : Rat)
    (hlen : labels.length = stats.length) : ∀ g ∈ BaseDisc.findCommonModalities labels stats lenDf minFreq, g ≠ [] := by
  obtain ⟨ls, rfl, rfl⟩ := Merge.exists_unzip hlen
  obtain ⟨zs, hinv, he, -⟩ := Merge.findCommonModalities_forall (lenDf := lenDf) (minFreq := minFreq)
    (R := fun g _ => g ≠ []) (fun _ _ _ _ hg _ h => hg (List.append_eq_nil_iff.1 h).2)
    ls (fun _ _ => List.cons_ne_nil _ _)
  rw [he]
  intro g hg
  obtain ⟨p, hp, rfl⟩ := List.mem_map.1 hg
  exact hinv p hp

/-- `convert_to_values` keeps the order well formed; if no group is empty it raises nothing but an AssertionError -/
theorem post_convertToValuesQual {groups : List (List Val)} {g : GL} (h : g.WF') :
    Post (fun e => (∀ grp ∈ groups, grp ≠ []) → IsAssertion e) GL.WF' (Pipeline.convertToValuesQual g groups) := by
  -- one round of the loop, for the group `grp`, from a well-formed `g`
  refine Post.foldlM (fun g grp hgrp hg => ?_) h
  cases hl : grp.getLast? with
  | none => exact .error fun hne => absurd (List.getLast?_eq_none_iff.1 hl) (hne grp hgrp)
  | some kept => exact (post_groupList hg grp kept).mono (fun _ he _ => he) fun _ h => h

theorem convertToValuesQual_WF (groups : List (List Val)) (g g' : GL) (h : g.WF')
    (he : Pipeline.convertToValuesQual g groups = .ok g') : g'.WF' :=
  (post_convertToValuesQual h).of_ok he

theorem convertToValuesQual_error : ∀ (groups : List (List Val)) (g : GL), g.WF' → (∀ grp ∈ groups, grp ≠ []) →
    ∀ e, Pipeline.convertToValuesQual g groups = .error e → ∃ m, e = Err.assertion m :=
  fun _ _ h hne _ he => (post_convertToValuesQual h).of_error he hne

/-- `OrdinalDiscretizer` (one feature) on a well-formed ranking ends in a well-formed order or in an AssertionError -/
theorem post_ordinalOrder (g : GL) (rows : Pipeline.Rows) (minFreq : Rat) (strNan : String) (hg : g.WF) :
    Post IsAssertion GL.WF (Pipeline.ordinalOrder g rows minFreq strNan) := by
  unfold Pipeline.ordinalOrder
  dsimp only
  -- the contract of `convert_to_values`, whose groups (those of `find_common_modalities`) are never empty; left to
  -- show: the order it starts from, `g` with the marker appended unless `g` holds it, is well formed
  refine (post_convertToValuesQual ?_).mono (fun e he => he (findCommonModalities_nonempty _ _ _ _ (by simp)))
    fun _ => GL.WF'.wf
  split
  · rename_i hc
    refine GL.append_WF' hg.wf' _ fun hm => ?_
    rw [(GL.C13_contains_agrees g _).2 (Dict.mem_allValues.1 hm)] at hc
    simp at hc
  · exact hg.wf'

/-- `OrdinalDiscretizer`: a well-formed ranking stays well formed, whatever is merged -/
theorem ordinalOrder_WF (g : GL) (rows : Pipeline.Rows) (minFreq : Rat) (strNan : String) (g' : GL)
    (hg : g.WF) (he : Pipeline.ordinalOrder g rows minFreq strNan = .ok g') : g'.WF :=
  (post_ordinalOrder g rows minFreq strNan hg).of_ok he

/-- **`OrdinalDiscretizer` (one feature) either completes or raises an AssertionError**, for every
    well-formed ranking, every sample and every `min_freq`. -/
theorem ordinalOrder_error_is_assertion (g : GL) (rows : Pipeline.Rows) (minFreq : Rat) (strNan : String)
    (hg : g.WF) (e : Err) (he : Pipeline.ordinalOrder g rows minFreq strNan = .error e) : ∃ m, e = Err.assertion m :=
  (post_ordinalOrder g rows minFreq strNan hg).of_error he

/-- the labels of a list of numeric leaders (with `+inf` and possibly the missing-value marker) can
    always be computed -/
theorem getLabels_ok (vals : List Val) (strNan : String) (h : ∀ v ∈ vals, ∀ s, v = Val.str s → s = strNan) :
    ∃ r, Disc.getLabels vals (some strNan) = .ok r := by
  unfold Disc.getLabels
  dsimp only
  rw [List.filterMapM_except_ok (g := fun v => match v with | .num q => some q | _ => none)]
  · exact ⟨_, rfl⟩
  · intro v hv
    obtain ⟨hm, hn⟩ := List.mem_filter.1 hv
    cases v with
    | num q => rfl
    | inf => rfl
    | str x =>
      obtain rfl := h _ hm x rfl
      simp [Disc.neNan] at hn

theorem aget_foldl_aset_zip_mem : ∀ (ps : List (Val × String)) (acc : List (String × Val)) (l : String),
    (l ∈ ps.map (·.2) ∨ (aget? acc l).isSome) →
    (aget? (ps.foldl (fun acc p => aset acc p.2 p.1) acc) l).isSome := by
  intro ps acc l h
  -- the slot is "`l` is a key": a pair labelled `l` sets it, any other pair leaves it as it is
  rw [List.foldl_get (get := fun a => (aget? a l).isSome) (w := (·.2 = l)) (val := fun _ => true) (v := true) ps acc
    (fun p _ s => by rw [aget?_aset]; split <;> rfl) fun _ _ _ => rfl]
  split
  · rfl
  · rename_i hn
    exact h.resolve_left fun hm => hn (List.mem_map.1 hm)

/-- `convert_to_values` keeps the order well formed; if no group of labels is empty and every label has its quantile
    it raises nothing but an AssertionError -/
theorem post_convertToValuesQuant {groups : List (List String)} {l2q : List (String × Val)} {g : GL} (h : g.WF') :
    Post (fun e => (∀ grp ∈ groups, grp ≠ [] ∧ ∀ l ∈ grp, (aget? l2q l).isSome) → IsAssertion e) GL.WF'
      (Pipeline.convertToValuesQuant g groups l2q) := by
  -- one round of the loop, for the group `grp`, from a well-formed `g`
  refine Post.foldlM (fun g grp hgrp hg => ?_) h
  by_cases hk : grp ≠ [] ∧ ∀ l ∈ grp, (aget? l2q l).isSome
  · -- every label of the group has its quantile, and there is a largest one
    obtain ⟨x, t, hxt⟩ := List.exists_cons_of_ne_nil hk.1
    simp only [bind, Except.bind]
    rw [List.mapM_except_ok (g := fun l => (aget? l2q l).getD .inf) fun l hl => by
      obtain ⟨v, hv⟩ := Option.isSome_iff_exists.1 (hk.2 l hl)
      simp only [hv]; rfl]
    simp only [hxt, List.map_cons, Pipeline.maxVal]
    exact (post_groupList hg _ _).mono (fun _ he _ => he) fun _ h => h
  · -- otherwise nothing is claimed of an error
    refine Post.mono (E := fun _ => True) ?_ (fun _ _ hne => absurd (hne grp hgrp) hk) fun _ h => h
    simp only [bind, Except.bind]
    split
    · exact .error trivial
    · split
      · exact .error trivial
      · exact (post_groupList hg _ _).mono (fun _ _ => trivial) fun _ h => h

theorem convertToValuesQuant_WF (groups : List (List String)) (l2q : List (String × Val)) (g g' : GL) (h : g.WF')
    (he : Pipeline.convertToValuesQuant g groups l2q = .ok g') : g'.WF' :=
  (post_convertToValuesQuant h).of_ok he

theorem convertToValuesQuant_error : ∀ (groups : List (List String)) (l2q : List (String × Val)) (g : GL), g.WF' →
    (∀ grp ∈ groups, grp ≠ [] ∧ ∀ l ∈ grp, (aget? l2q l).isSome) →
    ∀ e, Pipeline.convertToValuesQuant g groups l2q = .error e → ∃ m, e = Err.assertion m :=
  fun _ _ _ h hgr _ he => (post_convertToValuesQuant h).of_error he hgr

theorem bucketStats_length (h : Pipeline.QHist) (bs : List Val) : (Pipeline.bucketStats h bs).length = bs.length := by
  fun_induction Pipeline.bucketStats h bs with
  | case1 => rfl
  | case2 h b bs ih => rw [List.length_cons, ih, List.length_cons]

/-- `known` labels and `stats.take known.length` of `quantOrderQ` have the same length -/
theorem length_zip_take {α β γ : Type} (bs : List α) (ls : List β) (st : List γ) (h : st.length = bs.length) :
    ((bs.zip ls).map (·.2)).length = (st.take ((bs.zip ls).map (·.2)).length).length := by
  simp only [List.length_take, List.length_map, List.length_zip, h]; omega

/-- `QuantitativeDiscretizer` (one feature), whatever the number `q` of quantiles asked for, ends in a well-formed
    order or in an AssertionError: the labels of the quantiles can always be computed, every merged group of labels
    is non-empty and every label has its quantile, which is what `post_convertToValuesQuant` asks for -/
theorem post_quantOrderQ (h : Pipeline.QHist) (nNan q : Nat) (minFreq : Rat) (strNan : String) :
    Post IsAssertion GL.WF (Pipeline.quantOrderQ h nNan q minFreq strNan) := by
  have h0 := (contOrder_WF h nNan q strNan).wf'
  have hl := contOrder_lst h nNan q strNan
  generalize BaseDisc.findQuantiles _ _ q = nums at hl
  generalize htail : (if nNan > 0 then [Val.str strNan] else []) = tail at hl
  have htail' : tail = [] ∨ tail = [Val.str strNan] := by subst htail; split <;> simp
  have hstr : ∀ v ∈ (Pipeline.contOrder h nNan q strNan).lst, ∀ s, v = Val.str s → s = strNan := by
    rintro v hv s rfl
    rcases htail' with rfl | rfl <;> simp [hl] at hv
    exact hv
  have hbounds : (Pipeline.contOrder h nNan q strNan).lst.filter (Disc.neNan (some strNan)) =
      nums.map Val.num ++ [Val.inf] := by
    rw [hl, List.filter_append, List.filter_eq_self.2, List.append_right_eq_self]
    · rcases htail' with rfl | rfl <;> simp [Disc.neNan]
    · intro v hv
      rcases List.mem_append.1 hv with hv | hv
      · obtain ⟨x, _, rfl⟩ := List.mem_map.1 hv; rfl
      · obtain rfl := List.mem_singleton.1 hv; rfl
  unfold Pipeline.quantOrderQ
  simp only [bind, Except.bind, pure, Except.pure]
  split
  · exact .ok (contOrder_WF h nNan q strNan)
  · obtain ⟨labelVals, hlab⟩ := getLabels_ok _ strNan hstr
    rw [hlab]
    refine (post_convertToValuesQuant h0).mono (fun e he => he fun grp hgrp => ?_) fun _ => GL.WF'.wf
    have hlen := length_zip_take ((Pipeline.contOrder h nNan q strNan).lst.filter (Disc.neNan (some strNan)))
      (labelVals.filterMap Pipeline.strOfVal) _ (bucketStats_length h _)
    refine ⟨findCommonModalities_nonempty _ _ _ _ hlen grp hgrp, fun l hl' => ?_⟩
    -- the label is one of the known labels, all of which are keys of the label -> quantile table
    have hmem := (C03.ordinal_groups_cover _ _ (BaseDisc.total (Pipeline.hist h) + nNan) (minFreq / 2) hlen).mem_iff.1
      (List.mem_flatten.2 ⟨grp, hgrp, hl'⟩)
    obtain ⟨pq, hpq, rfl⟩ := List.mem_map.1 hmem
    rw [hbounds] at hpq
    exact aget_foldl_aset_zip_mem _ _ _
      (Or.inl (List.mem_map.2 ⟨pq, by rw [hl]; exact List.zip_prefix_sub _ tail _ pq hpq, rfl⟩))

/-- `QuantitativeDiscretizer`: whenever the fit completes, the fitted order is well formed -/
theorem quantOrder_WF (h : Pipeline.QHist) (nNan : Nat) (minFreq : Rat) (strNan : String) (g : GL)
    (he : Pipeline.quantOrder h nNan minFreq strNan = .ok g) : g.WF :=
  (post_quantOrderQ h nNan (Pipeline.qOf minFreq) minFreq strNan).of_ok he

/-- **`QuantitativeDiscretizer` (one feature) either completes or raises an AssertionError**, for
    every sample and every `min_freq` (`post_quantOrderQ`: and every number of quantiles). -/
theorem quantOrder_error_is_assertion (h : Pipeline.QHist) (nNan : Nat) (minFreq : Rat) (strNan : String)
    (e : Err) (he : Pipeline.quantOrder h nNan minFreq strNan = .error e) : ∃ m, e = Err.assertion m :=
  (post_quantOrderQ h nNan (Pipeline.qOf minFreq) minFreq strNan).of_error he

/-- the order `CategoricalDiscretizer._prepare_data` starts from -/
def catG0 (provided : Option GL) (rows : Pipeline.Rows) : GL :=
  match provided with
  | some g => g
  | none => GL.ofList (Pipeline.uniques rows)

theorem catPrepare_some (provided : Option GL) (rows : Pipeline.Rows) (strNan strDefault : String) :
    Pipeline.catPrepare provided rows strNan strDefault =
      Pipeline.catPrepare (some (catG0 provided rows)) rows strNan strDefault := by
  rfl

/-- `_prepare_data` from the order `g0` raises nothing but the AssertionError "Unexpected value"; the order it returns
    is `g0`, with `str_nan` appended if missing values call for it and `g0` does not hold it -/
theorem post_catPrepare (g0 : GL) (rows : Pipeline.Rows) (strNan strDefault : String) :
    Post (· = Err.assertion "Unexpected value")
      (fun p => p.1 = g0 ∨ (Val.str strNan ∉ g0.values ∧ p.1 = g0.append (.str strNan)))
      (Pipeline.catPrepare (some g0) rows strNan strDefault) := by
  refine Post.ite (fun _ => .error rfl) fun _ => .ok ?_
  dsimp only
  split
  · rename_i hc
    simp only [Bool.and_eq_true, decide_eq_true_eq] at hc
    exact Or.inr ⟨hc.2, rfl⟩
  · exact Or.inl rfl

theorem catPrepare_ok (g0 : GL) (rows : Pipeline.Rows) (strNan strDefault : String) (p : GL × Pipeline.Rows)
    (hwf : g0.WF') (hdef : Val.str strDefault ∉ g0.values) (hmark : strNan ≠ strDefault)
    (h : Pipeline.catPrepare (some g0) rows strNan strDefault = .ok p) : p.1.WF' ∧ Val.str strDefault ∉ p.1.values := by
  rcases (post_catPrepare g0 rows strNan strDefault).of_ok h with h1 | ⟨hn, h1⟩ <;> rw [h1]
  · exact ⟨hwf, hdef⟩
  · refine ⟨GL.append_WF' hwf _ hn, ?_⟩
    rw [GL.values, GL.append, Dict.allValues_set_of_not_mem (mt (hwf.mem_iff _).2 (hwf.not_mem_lst hn)),
      List.mem_append, List.mem_singleton, Val.str.injEq]
    exact fun h => h.elim hdef fun e => hmark e.symm

/-- grouping the rare values under `str_default`, from a well-formed order that does not hold `str_default` yet,
    raises nothing but an AssertionError (nothing is claimed of the returned order: `catSort` rebuilds it) -/
theorem post_catGroupRare {g1 : GL} {strDefault : String} (h : g1.WF') (hdef : Val.str strDefault ∉ g1.values)
    (rows2 : Pipeline.Rows) (toGroup : List Val) :
    Post IsAssertion (fun _ => True) (Pipeline.catGroupRare g1 rows2 toGroup strDefault) := by
  fun_cases Pipeline.catGroupRare g1 rows2 toGroup strDefault
  -- 1: the rare values are grouped; 2: `group_list` refuses; 3: there is none to group
  case case1 => exact .ok trivial
  case case2 e he =>
    exact .error (groupList_error_is_assertion toGroup _ (GL.append_WF' h _ hdef) (.str strDefault) e (by rw [he]))
  case case3 => exact .ok trivial

/-- `sort_by` rebuilds the object: whatever it is given, `catSort` ends well formed or in an AssertionError -/
theorem post_catSort (g2 : GL) (rows3 : Pipeline.Rows) (toGroup : List Val) (strNan strDefault : String) :
    Post IsAssertion (fun r => r.order.WF) (Pipeline.catSort g2 rows3 toGroup strNan strDefault) := by
  fun_cases Pipeline.catSort g2 rows3 toGroup strNan strDefault
  -- 1: the assertion of `catSort` itself; 2, 3: `sort_by` returns, refuses
  case case1 => exact .error ⟨_, rfl⟩
  case case2 hs => exact .ok (GL.sortBy_WF' hs).wf
  case case3 hs => exact .error (sortBy_error_is_assertion _ _ _ hs)

/-- `CategoricalDiscretizer`: whenever the fit completes, the fitted order is well formed -/
theorem catOrder_WF (provided : Option GL) (rows : Pipeline.Rows) (minFreq : Rat) (strNan strDefault : String)
    (r : Pipeline.CatResult) (he : Pipeline.catOrder provided rows minFreq strNan strDefault = .ok r) : r.order.WF := by
  suffices Post (fun _ => True) (fun r => r.order.WF) (Pipeline.catOrder provided rows minFreq strNan strDefault) from
    this.of_ok he
  -- nothing is needed of `catPrepare` and `catGroupRare`: the last step, `catSort`, rebuilds the object
  refine Post.trivial.bind fun p1 _ => Post.trivial.bind fun p2 _ => ?_
  exact (post_catSort ..).mono (fun _ _ => trivial) fun _ h => h

/-- **`CategoricalDiscretizer` (prepare + fit of one feature) either completes or raises an
    AssertionError** - for every `min_freq`, every sample in which the default marker is not a value
    (`hobs`; it differs from the missing-value marker, `hmark`) and every user-supplied order that is
    a well-formed partition not yet holding the default marker. -/
theorem catOrder_error_is_assertion (provided : Option GL) (rows : Pipeline.Rows) (minFreq : Rat)
    (strNan strDefault : String) (hprov : ∀ g, provided = some g → g.WF ∧ Val.str strDefault ∉ g.values)
    (hmark : strNan ≠ strDefault) (hobs : Val.str strDefault ∉ Pipeline.uniques rows)
    (e : Err) (he : Pipeline.catOrder provided rows minFreq strNan strDefault = .error e) :
    ∃ m, e = Err.assertion m := by
  have hg0 : (catG0 provided rows).WF' ∧ Val.str strDefault ∉ (catG0 provided rows).values := by
    unfold catG0
    cases hp : provided with
    | some g => exact ⟨(hprov g hp).1.wf', (hprov g hp).2⟩
    | none =>
      have hn := PipelineLemmas.nodup_uniques rows
      refine ⟨GL.ofList_WF' hn, ?_⟩
      rw [GL.values_ofList hn]; exact hobs
  refine Post.of_error (E := IsAssertion) (P := fun _ => True) ?_ he
  unfold Pipeline.catOrder
  rw [catPrepare_some]
  -- `catPrepare` hands on a well-formed order without the default marker, which is what `catGroupRare` needs
  have hprep : Post IsAssertion (fun p => p.1.WF' ∧ Val.str strDefault ∉ p.1.values)
      (Pipeline.catPrepare (some (catG0 provided rows)) rows strNan strDefault) :=
    ⟨catPrepare_ok _ rows strNan strDefault _ hg0.1 hg0.2 hmark, fun h1 => ⟨_, (post_catPrepare ..).of_error h1⟩⟩
  refine hprep.bind fun p1 hp1 => (post_catGroupRare hp1.1 hp1.2 _ _).bind fun p2 _ => ?_
  exact (post_catSort ..).mono (fun _ h => h) fun _ _ => trivial

/-! ## Non-vacuity -/

-- two over-represented values give the boundaries 0, 1, +inf; the empty last bucket is rare, so the feature goes
-- through the merging loop and `convert_to_values`: +inf absorbs the bucket of 1
example : (Pipeline.quantOrderQ [(0, 5, 3), (1, 5, 1)] 0 2 (1/2) "__NAN__").toOption.map (fun g => (g.lst, g.content)) =
    some ([.num 0, .inf], [(.num 0, [.num 0]), (.inf, [.num 1, .inf])]) := by decide +kernel
-- a categorical feature with one rare value ("c": 1 row of 8) and missing values
example : (Pipeline.catOrder none [(some (.str "a"), 1), (some (.str "b"), 0), (some (.str "a"), 0), (none, 1),
      (some (.str "c"), 1), (some (.str "a"), 1), (some (.str "b"), 0), (some (.str "a"), 0)]
      (1/5) "__NAN__" "__OTHER__").toOption.map
      (fun r => (r.grouped, r.order.lst)) =
    some ([.str "c"], [.str "b", .str "a", .str "__OTHER__", .str "__NAN__"]) := by decide +kernel
-- ... and a value the user's order does not know is refused with an AssertionError (the hypotheses of
-- `catOrder_error_is_assertion` hold)
example : (match Pipeline.catOrder (some (GL.ofList [.str "a", .str "b"]))
      [(some (.str "a"), 1), (some (.str "q"), 0)] (1/5) "__NAN__" "__OTHER__" with
    | .error (Err.assertion m) => m == "Unexpected value"
    | _ => false) = true := by decide +kernel
example : (GL.ofList [Val.str "a", .str "b"]).WF ∧
    Val.str "__OTHER__" ∉ (GL.ofList [Val.str "a", .str "b"]).values := by decide +kernel

end C08
