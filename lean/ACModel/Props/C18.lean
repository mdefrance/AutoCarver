import ACModel.Model.Chained
import ACModel.Props.C13
/-
  C18 — ChainedDiscretizer merges rare values only along the supplied hierarchy

  "After fit every value known to the hierarchy is still present in `values_orders`; a training
  value stays its own modality iff its frequency among all rows is at least min_freq, otherwise it
  is merged into one of its ancestors, an intermediate ancestor group that is itself rarer than
  min_freq being merged further up. Unknown values raise AssertionError or are merged with missing
  values according to unknown_handling, and transform outputs each value's group leader."

  Theorems on the model (`ACModel/Model/Chained.lean`): through every level of `fit` the feature's
  order stays a well-formed partition and no value disappears, provided the order `_prepare_data`
  returns is well formed (which is not proved); a value frequent enough is among those a level
  keeps (`level_target`; that a rare one goes to its group at that level is the definition of
  `level`, no theorem says it); the number of rows is the same at every level;
  `unknown_handling='raise'` refuses unknown values.
-/

namespace C18
open Chained GL

theorem glDo_ok {g g' : GL} {op : GL.Op} (hs : glDo g op = .ok g') : (GL.step g op).1 = g' := by
  unfold glDo at hs
  split at hs
  · rename_i heq; rw [heq, Except.ok.inj hs]
  · cases hs

/-- folding `group(d, target d)` over any list keeps well-formedness and every value -/
theorem foldGroups (target : Val → Val) : ∀ (ds : List Val) (o o' : GL), o.WF →
    ds.foldlM (fun (o : GL) d => glDo o (.group d (target d))) o = .ok o' →
    o'.WF ∧ ∀ v ∈ o.values, v ∈ o'.values := by
  intro ds o o' h hs
  -- the invariant of the loop: well formed, and holding every value `o` held
  refine (Except.Post.foldlM (E := fun _ => True) (Q := fun o' : GL => o'.WF ∧ ∀ v ∈ o.values, v ∈ o'.values)
    (fun o1 d _ hinv => ⟨fun hstep => ?_, fun _ => trivial⟩) ⟨h, fun _ => id⟩).of_ok hs
  rw [← glDo_ok hstep]
  exact ⟨C13_step_WF hinv.1 (.group d (target d)) trivial,
    fun v hv => C13_values_monotone hinv.1 (.group d (target d)) trivial trivial (hinv.2 v hv)⟩

theorem level_ok {minFreq : Rat} {strNan : Val} {lvl : GL} {st st' : St}
    (hs : level minFreq strNan lvl st = .ok st') : ∃ (target : Val → Val) (ds : List Val),
      ds.foldlM (fun (o : GL) d => glDo o (.group d (target d))) st.order = .ok st'.order ∧
      st'.counts = st.counts.foldl (fun acc p => addCount acc (target p.1) p.2) [] := by
  unfold level at hs
  dsimp only at hs
  split at hs
  · cases hs
  · rename_i o ho
    cases hs
    exact ⟨_, _, ho, rfl⟩

/-- **One level keeps the order a well-formed partition and loses no value.** -/
theorem level_preserves (minFreq : Rat) (strNan : Val) (lvl : GL) (st st' : St) (h : st.order.WF)
    (hs : level minFreq strNan lvl st = .ok st') :
    st'.order.WF ∧ ∀ v ∈ st.order.values, v ∈ st'.order.values :=
  have ⟨target, ds, ho, _⟩ := level_ok hs
  foldGroups target ds _ _ h ho

theorem fitLevels_eq_foldlM (minFreq : Rat) (strNan : Val) (levels : List GL) (st : St) :
    fitLevels minFreq strNan levels st = levels.foldlM (fun st l => level minFreq strNan l st) st := by
  induction levels generalizing st with
  | nil => rfl
  | cons l rest ih =>
    rw [fitLevels, List.foldlM_cons]
    cases level minFreq strNan l st with
    | error e => rfl
    | ok st1 => exact ih st1

/-- **All levels**: by induction over the hierarchy, whatever its depth. -/
theorem fitLevels_preserves (minFreq : Rat) (strNan : Val) : ∀ (levels : List GL) (st st' : St), st.order.WF →
    fitLevels minFreq strNan levels st = .ok st' →
    st'.order.WF ∧ ∀ v ∈ st.order.values, v ∈ st'.order.values := by
  intro levels st st' h hs
  rw [fitLevels_eq_foldlM] at hs
  -- the invariant of the loop over the levels: well formed, and holding every value `st.order` held
  refine (Except.Post.foldlM (E := fun _ => True)
    (Q := fun s : St => s.order.WF ∧ ∀ v ∈ st.order.values, v ∈ s.order.values)
    (fun s l _ hinv => ⟨fun hlevel => ?_, fun _ => trivial⟩) ⟨h, fun _ => id⟩).of_ok hs
  obtain ⟨hw, hv⟩ := level_preserves minFreq strNan l s _ hinv.1 hlevel
  exact ⟨hw, fun v hvv => hv v (hinv.2 v hvv)⟩

/-- `unknown_handling='raise'`: a sample with an unknown value is refused with AssertionError -/
theorem unknown_raise (order : GL) (known : List Val) (strNan : Val) (counts : Counts) (u : Val)
    (hu : u ∈ counts.map (·.1)) (hk : u ∉ known) (hn : u ≠ strNan) :
    prepare order known strNan false counts = .error (Err.assertion "unknown values") := by
  have : ((counts.map (·.1)).filter (fun v => v ∉ known && v != strNan)).isEmpty = false :=
    List.isEmpty_eq_false_iff.2 (List.ne_nil_of_mem (List.mem_filter.2 ⟨hu, by simp [hk, hn]⟩))
  unfold prepare
  dsimp only
  rw [this]
  rfl

/-- A value frequent enough (a positive count, at least `min_freq` of all rows) is in the list of
    values that `level` keeps (its `toKeep`). -/
theorem level_target (minFreq : Rat) (strNan : Val) (lvl : GL) (counts : Counts) (v : Val)
    (hfreq : (v, countOf counts v) ∈ counts ∧ 0 < countOf counts v ∧
      minFreq * (totalRows counts : Nat) ≤ ((countOf counts v : Nat) : Rat)) :
    v ∈ ((counts.filter (fun p => p.2 > 0 &&
      decide (minFreq * (totalRows counts : Nat) ≤ ((p.2 : Nat) : Rat)))).map (·.1) ++ [strNan]) := by
  refine List.mem_append_left _ (List.mem_map.2 ⟨(v, countOf counts v), List.mem_filter.2 ⟨hfreq.1, ?_⟩, rfl⟩)
  simp [hfreq.2.1, hfreq.2.2]

theorem totalRows_eq_sum (c : Counts) : totalRows c = (c.map (·.2)).sum := List.sum_eq_foldl_nat.symm

theorem totalRows_cons (p : Val × Nat) (t : Counts) : totalRows (p :: t) = p.2 + totalRows t := by
  rw [totalRows_eq_sum, totalRows_eq_sum, List.map_cons, List.sum_cons]

theorem addCount_total : ∀ (c : Counts) (v : Val) (n : Nat), totalRows (addCount c v n) = totalRows c + n := by
  intro c v n
  induction c with
  | nil => rfl
  | cons p t ih =>
    rw [addCount]
    split
    · rw [totalRows_cons, totalRows_cons]; exact Nat.add_right_comm p.2 n _
    · rw [totalRows_cons, totalRows_cons, ih]; exact (Nat.add_assoc p.2 _ n).symm

theorem foldl_addCount_total (target : Val × Nat → Val) (cs acc : Counts) :
    totalRows (cs.foldl (fun acc p => addCount acc (target p) p.2) acc) = totalRows acc + totalRows cs := by
  induction cs generalizing acc with
  | nil => rfl
  | cons p t ih => rw [List.foldl_cons, ih, addCount_total, totalRows_cons, Nat.add_assoc]

/-- **Rewriting rare values to their group moves rows, it never loses or invents any**: `min_freq`
    is a share of *all* rows at every level of the hierarchy. -/
theorem level_total (minFreq : Rat) (strNan : Val) (lvl : GL) (st st' : St)
    (hs : level minFreq strNan lvl st = .ok st') : totalRows st'.counts = totalRows st.counts := by
  obtain ⟨target, _, _, hc⟩ := level_ok hs
  rw [hc, foldl_addCount_total (fun p => target p.1)]
  exact Nat.zero_add _

theorem fitLevels_total (minFreq : Rat) (strNan : Val) : ∀ (levels : List GL) (st st' : St),
    fitLevels minFreq strNan levels st = .ok st' → totalRows st'.counts = totalRows st.counts :=
  fun levels st _ hs =>
  (Except.Post.foldlM (Q := fun s : St => totalRows s.counts = totalRows st.counts)
    (fun s l _ hinv => ⟨fun hlevel => (level_total minFreq strNan l s _ hlevel).trans hinv, fun _ => trivial⟩)
    rfl).of_ok (fitLevels_eq_foldlM minFreq strNan levels st ▸ hs)

/-- **The whole `fit` of one feature**: when it completes, `_prepare_data` returned an order, and
    if that order is well formed the fitted one is a well-formed partition holding every value it
    held, whatever the depth of the hierarchy. -/
theorem fit_preserves (order : GL) (known : List Val) (levels : List GL) (strNan : Val) (drop : Bool) (minFreq : Rat)
    (counts : Counts) (g : GL) (h : fit order known levels strNan drop minFreq counts = .ok g) :
    ∃ o, prepare order known strNan drop counts = .ok o ∧ (o.WF → g.WF ∧ ∀ v ∈ o.values, v ∈ g.values) := by
  unfold fit at h
  split at h
  · cases h
  rename_i o hp
  split at h
  · cases h
  rename_i st hf
  cases h
  exact ⟨o, hp, fun hw => fitLevels_preserves minFreq strNan levels ⟨o, counts⟩ st hw hf⟩

/-- With `unknown_handling='raise'` and an unknown value `fit` raises the AssertionError of
    `unknown_raise`. -/
theorem fit_unknown_raise (order : GL) (known : List Val) (levels : List GL) (strNan : Val) (minFreq : Rat)
    (counts : Counts) (u : Val) (hu : u ∈ counts.map (·.1)) (hk : u ∉ known) (hn : u ≠ strNan) :
    fit order known levels strNan false minFreq counts = .error (Err.assertion "unknown values") := by
  unfold fit
  rw [unknown_raise order known strNan counts u hu hk hn]

/-! ## Non-vacuity -/

private def lvl0 : GL := ⟨[.str "G"], [(.str "G", [.str "a", .str "b", .str "G"])]⟩
private def ord0 : GL := GL.ofList [.str "a", .str "b", .str "G"]
example : (match level (3/10) (.str "__NAN__") lvl0 ⟨ord0, [(.str "a", 9), (.str "b", 1)]⟩ with
    | .ok st => decide (st.order.lst = [.str "a", .str "G"] ∧ st.counts = [(.str "a", 9), (.str "G", 1)])
    | .error _ => false) = true := by decide +kernel

end C18
