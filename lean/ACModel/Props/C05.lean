import ACModel.Props.C04
/-
  C05 — Unseen data is given fitted labels or rejected, never passed through

  "Transforming data not seen at fit either raises an AssertionError naming the feature (unseen
  category of a feature without default group, or missing values in a feature that had none at
  fit) or returns, for every fitted feature, only labels of the fitted label set: any finite
  number is accepted for a quantitative feature and unseen categories of a feature with a default
  group fall into that group. Raw values never leak into a fitted feature's output and no other
  exception type is raised."
-/

namespace C05
open Disc Spec

/-- shape of a fitted quantitative state, as far as transform is concerned: the non-`str_nan`
    leaders are numbers or `inf`, `inf` is one of them, and every leader has a label -/
structure QuantReady (g : GL) (table : LabelTable) (strNan : Option String) : Prop where
  noStr : (g.lst.filter (neNan strNan)).any Val.isStr = false
  hasInf : Val.inf ∈ g.lst.filter (neNan strNan)
  labelled : (g.lst.filter (neNan strNan)).any (fun l => (aget? table l).isNone) = false

theorem mem_table_of_aget {table : LabelTable} {k v : Val} (h : aget? table k = some v) :
    table.any (fun p => p.2 == v) = true :=
  List.any_eq_true.2 ⟨(k, v), mem_of_aget? h, beq_self_eq_true v⟩

/-- **Any finite number (or `inf`) is accepted and gets a fitted label.** -/
theorem quant_cell_is_label (g : GL) (table : LabelTable) (strNan : Option String)
    (hr : QuantReady g table strNan) (x : Val) (hx : x.isStr = false) :
    cellAllowed table true (quantCell g table strNan (some x)) = true := by
  have hx' : ∀ s, x ≠ .str s := by intro s e; subst e; simp [Val.isStr] at hx
  obtain ⟨l, hl, _, hsel⟩ := C04.selectPure_total _ table x hx' hr.hasInf
  cases hlab : aget? table l with
  | none => exact absurd (by rw [hlab]; rfl) (List.any_eq_false.1 hr.labelled l hl)
  | some lab =>
    simp only [quantCell, cellAllowed, hsel, hlab, Option.getD_some]
    exact mem_table_of_aget hlab

/-- **Outcome of a quantitative column:** labels only, or the AssertionError naming the
    feature; the latter only when a value is missing although none was at fit (the iff is
    `Disc.transformQuantCol_eq_assertion`). -/
theorem quant_col_outcome (f : String) (g : GL) (table : LabelTable) (strNan : Option String)
    (hr : QuantReady g table strNan) (col : Col) (hcol : col.any cellIsStr = false) :
    (transformQuantCol f g table strNan col = .error (.assertion f) ∧
        col.any Option.isNone = true ∧ g.contains (nanArgOf strNan) = false) ∨
    (transformQuantCol f g table strNan col = .ok (col.map (quantCell g table strNan)) ∧
        ∀ c ∈ col, c ≠ none → cellAllowed table true (quantCell g table strNan c) = true) := by
  cases hn : (col.any Option.isNone && !(g.contains (nanArgOf strNan))) with
  | true =>
    have he : transformQuantCol f g table strNan col = .error (.assertion f) :=
      transformQuantCol_eq_assertion.2 ⟨rfl, hn⟩
    exact .inl ⟨he, (C04.transformQuantCol_assert f g table strNan col f he).2⟩
  | false =>
    refine .inr ⟨C04.transformQuantCol_ok f g table strNan col hn hr.noStr hcol hr.labelled, ?_⟩
    intro c hc hne
    cases c with
    | none => exact absurd rfl hne
    | some x =>
      exact quant_cell_is_label g table strNan hr x (List.any_eq_false.1 hcol (some x) hc |> Bool.eq_false_iff.2)

/-- a qualitative column is never rejected with anything but the AssertionError naming it -/
theorem qual_col_outcome (f : String) (g : GL) (table : LabelTable) (strNan strDefault : Option String)
    (col : Col) :
    transformQualCol f g table strNan strDefault col = .error (.assertion f) ∨
    ∃ out, transformQualCol f g table strNan strDefault col = .ok out := by
  cases h : transformQualCol f g table strNan strDefault col with
  | ok out => exact .inr ⟨out, rfl⟩
  | error e => rw [(transformQualCol_eq_error.1 h).1]; exact .inl rfl

/-- **Unseen category, default group present:** it receives the default group's label. -/
theorem unseen_with_default (g : GL) (table : LabelTable) (strNan : Option String) (d : String)
    (v : Val) (hv : v ∉ g.values) (hne : neNan strNan v = true) (hd : Val.str d ∈ g.values) :
    qualCell table (qualPrepared g strNan (some d) (some v)) =
      some ((aget? table (.str d)).getD (.str d)) := by
  simp [qualPrepared, qualCell, hv, hne, hasDefault, hd]

/-- **Unseen category, no default group:** the column is rejected with the AssertionError. -/
theorem unseen_without_default (f : String) (g : GL) (table : LabelTable)
    (strNan strDefault : Option String) (col : Col) (v : Val) (hc : some v ∈ col)
    (hv : v ∉ g.values) (hd : hasDefault g strDefault = false) :
    transformQualCol f g table strNan strDefault col = .error (.assertion f) := by
  refine transformQualCol_eq_error.2 ⟨rfl, List.any_eq_true.2 ⟨some v, List.mem_map.2 ⟨some v, hc, ?_⟩, ?_⟩⟩
  · simp [qualPrepared, hd]
  · simp [unexpected, hv]

/-- **Missing value where none was seen at fit** (qualitative): rejected. -/
theorem missing_unseen_qual (f : String) (g : GL) (table : LabelTable) (n : String)
    (strDefault : Option String) (col : Col) (hc : none ∈ col) (hn : n ≠ "")
    (hnan : Val.str n ∉ g.values) :
    transformQualCol f g table (some n) strDefault col = .error (.assertion f) := by
  refine transformQualCol_eq_error.2 ⟨rfl, List.any_eq_true.2 ⟨some (.str n), List.mem_map.2 ⟨none, hc, ?_⟩, ?_⟩⟩
  · simp [qualPrepared, truthyOpt, hn, nanVal]
  · simp [unexpected, hnan]

/-- **No leak in qualitative output:** when every known value has a label, every output cell of
    an accepted column is a fitted label (or missing). -/
theorem qual_no_leak (f : String) (g : GL) (table : LabelTable) (strNan strDefault : Option String)
    (col out : Col) (htab : ∀ v ∈ g.values, (aget? table v).isSome)
    (h : transformQualCol f g table strNan strDefault col = .ok out) :
    ∀ c ∈ out, c ≠ none → cellAllowed table true c = true := by
  obtain ⟨hany, rfl⟩ := transformQualCol_eq_ok.1 h
  intro c hc hne
  obtain ⟨p, hp, rfl⟩ := List.mem_map.1 hc
  cases p with
  | none => exact absurd rfl hne
  | some v =>
    have hv : v ∈ g.values := by simpa [unexpected] using List.any_eq_false.1 hany (some v) hp
    obtain ⟨lab, hlab⟩ := Option.isSome_iff_exists.1 (htab v hv)
    simp only [qualCell, cellAllowed, hlab, Option.getD_some]
    exact mem_table_of_aget hlab

/-- the fitted state is ready for `transform`: every typed feature has its `values_orders` entry
    and its labels, every key of `features_dropna` has its label table, a feature has one type,
    typed features are fitted features.  Hypotheses on the fitted state, evaluated by the driver on
    the implementation's state. -/
structure Ready (s : Disc) : Prop where
  quant : ∀ f ∈ s.quant, ∃ g t, aget? s.orders f = some g ∧ aget? s.lpv f = some t ∧ QuantReady g t s.strNan
  qual : ∀ f ∈ s.qual, ∃ g t, aget? s.orders f = some g ∧ aget? s.lpv f = some t ∧ ∀ v ∈ g.values, (aget? t v).isSome
  fd : ∀ fd ∈ s.featDropna, (aget? s.lpv fd.1).isSome = true
  typed : ∀ f ∈ s.qual, f ∉ s.quant
  sub : ∀ f, f ∈ s.quant ∨ f ∈ s.qual → f ∈ s.features

open FrameLemmas

/-- **`transform` never fails with anything but an AssertionError**: the missing-columns one, or
    the one naming a fitted feature — on every frame whose quantitative columns hold numbers or
    missing values, for every ready fitted state. -/
theorem transform_rejection_is_assertion (s : Disc) (hs : s.Shape) (hr : Ready s) (x0 x : Frame)
    (hc : s.castFeatures x0 = .ok x)
    (hnum : ∀ f ∈ s.quant, ∀ c, aget? x f = some c → c.any cellIsStr = false)
    (e : Err) (h : s.transform x0 = .error e) :
    e = Err.assertion "columns are missing" ∨ ∃ f ∈ s.features, e = Err.assertion f := by
  have present : ∀ {f}, f ∈ s.quant ∨ f ∈ s.qual → (∀ f ∈ s.features, ∃ c, aget? x f = some c) → aget? x f ≠ none :=
    fun hf hcols hx => by obtain ⟨c, hc'⟩ := hcols _ (hr.sub _ hf); rw [hx] at hc'; cases hc'
  rcases transform_error_cases s hs hr.typed x0 x hc e h with
    h0 | ⟨hcols, ⟨f, hf, hcase⟩ | ⟨f, hf, hcase⟩ | ⟨fd, hfd, hcase⟩⟩
  · exact .inl h0
  · refine .inr ⟨f, hr.sub f (.inl hf), ?_⟩
    obtain ⟨c, hcx, hu⟩ | ⟨hcx, _⟩ := hcase
    · obtain ⟨g, t, ho, hl, hq⟩ := hr.quant f hf
      rw [qUpd_of_some ho hl] at hu
      obtain ⟨he, _⟩ | ⟨hok, _⟩ := quant_col_outcome f g t s.strNan hq c (hnum f hf c hcx)
      · exact (Except.error.inj (he.symm.trans hu)).symm
      · rw [hok] at hu; cases hu
    · exact absurd hcx (present (.inl hf) hcols)
  · refine .inr ⟨f, hr.sub f (.inr hf), ?_⟩
    obtain ⟨c, _, hu⟩ | ⟨hcx, _⟩ := hcase
    · obtain ⟨g, t, ho, hl, _⟩ := hr.qual f hf
      rw [lUpd_of_some ho hl] at hu
      exact (transformQualCol_eq_error.1 hu).1
    · exact absurd hcx (present (.inr hf) hcols)
  · -- the missing-value step cannot fail: every key of `features_dropna` has its label table
    obtain ⟨t, ht⟩ := Option.isSome_iff_exists.1 (hr.fd fd hfd)
    have hm : nMiss s fd = .ok () := by unfold nMiss; rw [ht]; split <;> rfl
    obtain ⟨c, hu⟩ | hu := hcase
    · rw [C04.nUpd_eq, hm] at hu; cases hu
    · rw [hm] at hu; cases hu

theorem mem_of_mem_map_nanFix {G : Cell → Cell} (hG : ∀ d, G d = d ∨ G d = none) {c2 : Col} {c : Cell}
    (hc : c ∈ c2.map G) (hne : c ≠ none) : c ∈ c2 := by
  obtain ⟨d, hd, rfl⟩ := List.mem_map.1 hc
  rcases hG d with e | e
  · rwa [e]
  · exact absurd e hne

theorem mem_nanfix (lab : Val) (c2 : Col) (c : Cell)
    (hc : c ∈ c2.map (fun cell => if cell = some lab then none else cell)) (hne : c ≠ none) : c ∈ c2 :=
  mem_of_mem_map_nanFix (fun d => (Decidable.em (d = some lab)).elim (fun h => .inr (if_pos h))
    fun h => .inl (if_neg h))
    hc hne

/-- the missing-value step only turns cells into missing ones -/
theorem nUpd_sub (s : Disc) (fd : String × Bool) (c2 c' : Col) (h : nUpd s fd c2 = .ok c') :
    ∀ c ∈ c', c ≠ none → c ∈ c2 := by
  rw [C04.nUpd_eq_map s fd c2 c' h]
  exact fun c => mem_of_mem_map_nanFix (C04.nanFixOf_eq_or s fd)

/-- **No raw value leaks through a qualitative feature.**  In every accepted frame, every
    non-missing cell of a fitted qualitative column is a label of that feature's label table. -/
theorem transform_qual_labels_only (s : Disc) (hs : s.Shape) (hr : Ready s) (x0 x out : Frame)
    (hc : s.castFeatures x0 = .ok x) (h : s.transform x0 = .ok out) (f : String) (hf : f ∈ s.qual) :
    ∃ t, aget? s.lpv f = some t ∧ ∀ col, aget? out f = some col →
      ∀ c ∈ col, c ≠ none → cellAllowed t true c = true := by
  obtain ⟨g, t, ho, hl, htab⟩ := hr.qual f hf
  refine ⟨t, hl, fun col hcol c hcm hne => ?_⟩
  obtain ⟨cin, hx⟩ := transform_cols_present s x0 x out hc h f (hr.sub f (.inr hf))
  obtain ⟨c2, h2, hout⟩ := C04.transform_qual_col hs hf (hr.typed f hf) ho hl hc h hx
  cases hout.symm.trans hcol
  exact qual_no_leak f g t s.strNan s.strDefault cin c2 htab h2 c
    (mem_of_mem_map_nanFix (C04.nanFix_eq_or s f) hcm hne) hne

/-- **No raw value leaks through a quantitative feature.**  In every accepted frame (numbers or
    missing values in the quantitative columns), every cell of a fitted quantitative column is a
    label of that feature's label table, or missing, or the output designated for missing values. -/
theorem transform_quant_labels_only (s : Disc) (hs : s.Shape) (hr : Ready s) (x0 x out : Frame)
    (hc : s.castFeatures x0 = .ok x) (h : s.transform x0 = .ok out) (f : String) (hf : f ∈ s.quant)
    (hnum : ∀ c, aget? x f = some c → c.any cellIsStr = false) :
    ∃ g t, aget? s.orders f = some g ∧ aget? s.lpv f = some t ∧ ∀ col, aget? out f = some col →
      ∀ c ∈ col, c = none ∨ cellAllowed t true c = true ∨ c = nanCellOut g t s.strNan := by
  obtain ⟨g, t, ho, hl, hq⟩ := hr.quant f hf
  refine ⟨g, t, ho, hl, fun col hcol c hcm => ?_⟩
  obtain ⟨cin, hx⟩ := transform_cols_present s x0 x out hc h f (hr.sub f (.inl hf))
  obtain ⟨c1, h1, hout⟩ := C04.transform_quant_col hs hf (fun hq' => hr.typed f hq' hf) ho hl hc h hx
  cases hout.symm.trans hcol
  by_cases hne : c = none
  · exact .inl hne
  · obtain ⟨he, _⟩ | ⟨hok, hall⟩ := quant_col_outcome f g t s.strNan hq cin (hnum cin hx)
    · rw [he] at h1; cases h1
    · cases hok.symm.trans h1
      obtain ⟨d, hd, rfl⟩ := List.mem_map.1 (mem_of_mem_map_nanFix (C04.nanFix_eq_or s f) hcm hne)
      cases d with
      | none => exact .inr (.inr rfl)
      | some v => exact .inr (.inl (hall (some v) hd nofun))

/-! ## Non-vacuity -/

private def g1 : GL := GL.ofList [.num 1, .num 5, .inf]
private def t1 : LabelTable := [(.num 1, .str "a"), (.num 5, .str "b"), (.inf, .str "c")]
example : QuantReady g1 t1 (some "__NAN__") := ⟨by decide +kernel, by decide +kernel, by decide +kernel⟩
example : transformQuantCol "f" g1 t1 (some "__NAN__") [some (.num 7), none] = .error (.assertion "f") := by
  decide +kernel
example : transformQualCol "f" (GL.ofList [.str "A", .str "__OTHER__"])
    [(.str "A", .str "A"), (.str "__OTHER__", .str "__OTHER__")]
    (some "__NAN__") (some "__OTHER__") [some (.str "zz")] = .ok [some (.str "__OTHER__")] := by decide +kernel

/-- a fitted state (labels as `fit` computes them) that is ready for `transform` -/
def exReady : Disc :=
  { features := ["q", "k"], quant := ["q"], qual := ["k"],
    orders := [("q", g1), ("k", GL.ofList [.str "a", .str "b"])],
    outFloat := false, strNan := some "__NAN__", strDefault := some "__OTHER__", dropna := true,
    featDropna := [("q", true), ("k", true)],
    lpv := [("q", t1), ("k", [(.str "a", .str "a"), (.str "b", .str "b")])], casting := [("q", ["q"]), ("k", ["k"])] }

example : Ready exReady := by
  refine ⟨?_, ?_, ?_, ?_, ?_⟩
  · intro f hf
    obtain rfl : f = "q" := List.mem_singleton.1 hf
    exact ⟨g1, t1, by decide +kernel, by decide +kernel, ⟨by decide +kernel, by decide +kernel, by decide +kernel⟩⟩
  · intro f hf
    obtain rfl : f = "k" := List.mem_singleton.1 hf
    exact ⟨GL.ofList [.str "a", .str "b"], [(.str "a", .str "a"), (.str "b", .str "b")],
      by decide +kernel, by decide +kernel, by decide +kernel⟩
  · decide +kernel
  · decide +kernel
  · intro f hf
    obtain rfl | rfl : f = "q" ∨ f = "k" := hf.imp List.mem_singleton.1 List.mem_singleton.1 <;> decide +kernel
example : exReady.Shape := ⟨by decide +kernel, by decide +kernel, by decide +kernel⟩
example : exReady.transform [("q", [some (.num 3)]), ("k", [some (.str "zzz")])] =
    .error (.assertion "k") := by decide +kernel
example : exReady.transform [("q", [some (.num 3), some (.num 99)]), ("k", [some (.str "b"), some (.str "a")])] =
    .ok [("q", [some (.str "b"), some (.str "c")]), ("k", [some (.str "b"), some (.str "a")])] := by decide +kernel

end C05
