import ACModel.Proofs.Frame
/-
  C07 — fit/transform coherence, row-wise purity and absence of side effects

  "`fit_transform(X, y)` equals `fit(X, y)` followed by `transform(X)`; the label of a row depends
  only on that row's values, so transforming any subset, reordering or re-indexing of rows gives
  the corresponding rows of the full result, and repeated transforms give identical results
  without altering the fitted state. The output keeps X's index and columns, leaves non-feature
  columns unchanged, and with copy=True neither fit nor transform modifies the caller's X, y,
  X_dev or y_dev."

  In the model `transform` is a function of the fitted state and the frame: it returns no new
  state, so "repeated transforms give identical results without altering the fitted state" holds
  by construction, and `fit_transform` is sklearn's mixin (`fit(X, y).transform(X)`).  What the
  theorems add is row-wise purity: selecting rows (any list of row positions: subsets,
  permutations, repetitions) commutes with the column transforms, including their rejections.
  That the implementation refines this pure function — and leaves the caller's objects alone — is
  what the correspondence of `harness/c07.py` checks on every run.
-/

namespace C07
open Disc

/-- the rows of a column at the given positions (subset, permutation, repetition …) -/
def pick (idx : List Nat) (col : Col) : Col := idx.filterMap (fun i => col[i]?)

theorem mem_pick {idx : List Nat} {col : Col} {c : Cell} (h : c ∈ pick idx col) : c ∈ col := by
  unfold pick at h
  obtain ⟨i, _, hi⟩ := List.mem_filterMap.1 h
  exact List.mem_of_getElem? hi

theorem pick_map (idx : List Nat) (col : Col) (f : Cell → Cell) :
    pick idx (col.map f) = (pick idx col).map f := by
  unfold pick
  rw [List.map_filterMap]
  exact congrArg (List.filterMap · idx) (funext fun i => List.getElem?_map)

theorem any_pick_false {idx : List Nat} {col : Col} {p : Cell → Bool} (h : col.any p = false) :
    (pick idx col).any p = false := by
  rw [List.any_eq_false] at h ⊢
  intro c hc
  exact h c (mem_pick hc)

/-- **Row-wise purity, quantitative columns.** If a column is accepted, any selection of its rows
    is accepted too and yields exactly the corresponding rows of the full output. -/
theorem quant_rowwise (f : String) (g : GL) (table : LabelTable) (strNan : Option String)
    (col out : Col) (h : transformQuantCol f g table strNan col = .ok out) (idx : List Nat) :
    transformQuantCol f g table strNan (pick idx col) = .ok (pick idx out) := by
  obtain ⟨h1, h2, h3, rfl⟩ := transformQuantCol_eq_ok.1 h
  rw [Bool.or_eq_false_iff] at h2
  refine transformQuantCol_eq_ok.2 ⟨?_, by rw [h2.1, any_pick_false h2.2]; rfl, h3, pick_map idx col _⟩
  -- a guard `col.any p && b`, with `b` a fact about the fitted state, lets the selection through as well
  cases hb : !(g.contains (nanArgOf strNan)) with
  | false => exact Bool.and_false _
  | true => rw [hb, Bool.and_true] at h1; rw [any_pick_false h1]; rfl

/-- **Row-wise purity, qualitative columns.** What `quant_rowwise` says, of the qualitative update. -/
theorem qual_rowwise (f : String) (g : GL) (table : LabelTable) (strNan strDefault : Option String)
    (col out : Col) (h : transformQualCol f g table strNan strDefault col = .ok out) (idx : List Nat) :
    transformQualCol f g table strNan strDefault (pick idx col) = .ok (pick idx out) := by
  obtain ⟨h1, rfl⟩ := transformQualCol_eq_ok.1 h
  exact transformQualCol_eq_ok.2 ⟨by rw [← pick_map]; exact any_pick_false h1, by rw [← pick_map, ← pick_map]⟩

/-- A rejected selection means the full column is rejected as well: rejections are row-wise too. -/
theorem quant_reject_mono (f : String) (g : GL) (table : LabelTable) (strNan : Option String)
    (col : Col) (idx : List Nat) (e : Err)
    (h : transformQuantCol f g table strNan (pick idx col) = .error e) :
    ∃ e', transformQuantCol f g table strNan col = .error e' := by
  cases hfull : transformQuantCol f g table strNan col with
  | error e' => exact ⟨e', rfl⟩
  | ok out => rw [quant_rowwise f g table strNan col out hfull idx] at h; cases h

/-- the output column has as many rows as the input (index preserved position by position) -/
theorem quant_length (f : String) (g : GL) (table : LabelTable) (strNan : Option String)
    (col out : Col) (h : transformQuantCol f g table strNan col = .ok out) : out.length = col.length := by
  rw [(transformQuantCol_eq_ok.1 h).2.2.2, List.length_map]

theorem qual_length (f : String) (g : GL) (table : LabelTable) (strNan strDefault : Option String)
    (col out : Col) (h : transformQualCol f g table strNan strDefault col = .ok out) :
    out.length = col.length := by
  rw [(transformQualCol_eq_ok.1 h).2, List.length_map, List.length_map]

def pickF (idx : List Nat) (x : Frame) : Frame := FrameLemmas.mapF (pick idx) x

/-- **Row-wise purity of `transform` on whole frames.**  If a frame is accepted, the frame made of
    any selection of its rows (the same positions in every column) is accepted too, and its output
    is the same selection of the rows of the full output — for every fitted state. -/
theorem transform_frame_rowwise (s : Disc) (x out : Frame) (h : s.transform x = .ok out) (idx : List Nat) :
    s.transform (pickF idx x) = .ok (pickF idx out) :=
  FrameLemmas.transform_map s (pick idx)
    (fun f g t c c' hc => quant_rowwise f g t s.strNan c c' hc idx)
    (fun f g t c c' hc => qual_rowwise f g t s.strNan s.strDefault c c' hc idx)
    (fun g c => pick_map idx c g) x out h

/-- **The output keeps the input's columns**, in the same order (after the copies that
    `features_casting` asks for have been added). -/
theorem transform_keeps_columns (s : Disc) (hs : s.Shape) (x0 x out : Frame)
    (hc : s.castFeatures x0 = .ok x) (h : s.transform x0 = .ok out) : akeys out = akeys x :=
  (FrameLemmas.transform_spec s hs x0 x out hc h).1

/-- **Columns that are not fitted features come out unchanged.** -/
theorem transform_nonfeature_unchanged (s : Disc) (hs : s.Shape) (x0 x out : Frame)
    (hc : s.castFeatures x0 = .ok x) (h : s.transform x0 = .ok out) (n : String)
    (h1 : n ∉ s.quant) (h2 : n ∉ s.qual) (h3 : ∀ fd ∈ s.featDropna, fd.1 ≠ n) :
    aget? out n = aget? x n := by
  obtain ⟨_, hcols⟩ := FrameLemmas.transform_spec s hs x0 x out hc h
  cases hx : aget? x n with
  | none => exact (hcols n).2 hx
  | some c =>
    obtain ⟨c', hct, ho⟩ := (hcols n).1 c hx
    rw [FrameLemmas.colTransform_of_untyped h1 h2 h3] at hct
    cases hct
    exact ho

/-- a discretizer or carver whose features are cast to themselves adds no column at all -/
theorem castFeatures_self (s : Disc) (x : Frame) (h : s.casting.all (fun c => c.2 == [c.1]) = true) :
    s.castFeatures x = .ok x := by
  unfold castFeatures
  simp [h]

/-! ## Non-vacuity -/

example : pick [2, 0, 0] [some (.num 1), none, some (.num 3)] = [some (.num 3), some (.num 1), some (.num 1)] := by
  decide +kernel
example : transformQuantCol "f" (GL.ofList [.num 1, .inf]) [(.num 1, .str "a"), (.inf, .str "b")] none
    [some (.num 0), some (.num 2)] = .ok [some (.str "a"), some (.str "b")] := by decide +kernel

example : pickF [1, 0] [("f", [some (.num 1), some (.num 2)]), ("other", [some (.str "a"), none])] =
    [("f", [some (.num 2), some (.num 1)]), ("other", [none, some (.str "a")])] := by decide +kernel

/-- a fitted state with one quantitative and one qualitative feature (labels computed by `fit`) -/
def exState : Disc :=
  { features := ["q", "k"], quant := ["q"], qual := ["k"],
    orders := [("q", GL.ofList [.num 1, .inf, .str "__NAN__"]), ("k", GL.ofList [.str "a", .str "b"])],
    outFloat := true, strNan := some "__NAN__", strDefault := some "__OTHER__", dropna := false,
    featDropna := [("q", false), ("k", false)], lpv := [], casting := [("q", ["q"]), ("k", ["k"])] }

def exFrame : Frame := [("id", [some (.num 7), some (.num 8), some (.num 9)]),
  ("q", [some (.num 0), none, some (.num 5)]), ("k", [some (.str "b"), some (.str "a"), some (.str "b")])]

example : (exState.fit.bind fun s => s.transform exFrame) =
    .ok [("id", [some (.num 7), some (.num 8), some (.num 9)]),
         ("q", [some (.num 0), none, some (.num 1)]), ("k", [some (.num 1), some (.num 0), some (.num 1)])] := by
  decide +kernel
example : (exState.fit.bind fun s => s.transform (pickF [2, 2, 0] exFrame)) =
    .ok (pickF [2, 2, 0] [("id", [some (.num 7), some (.num 8), some (.num 9)]),
         ("q", [some (.num 0), none, some (.num 1)]), ("k", [some (.num 1), some (.num 0), some (.num 1)])]) := by
  decide +kernel
example : exState.Shape := ⟨by decide +kernel, by decide +kernel, by decide +kernel⟩

end C07
