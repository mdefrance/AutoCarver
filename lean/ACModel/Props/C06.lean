import ACModel.Proofs.Json
import ACModel.Props.C13
import ACModel.Proofs.Frame
/-
  C06 — JSON save/load round trip preserves behaviour

  "For every fitted carver or discretizer, `to_json()` is serialisable by the standard json module,
  and the object rebuilt by `load_carver`/`load_discretizer` from the dumped-and-reloaded JSON
  produces the same transform output (or the same rejection) as the original on any DataFrame, and
  the same summary. Serialising the reloaded object yields the same JSON again."

  Model: `ACModel/Model/Json.lean` (normal form `canon`, `dumpableB`: `ACModel/Spec/Json.lean`).
  Proved: a `Dumpable` order comes back as `canon g`, which every reader sees as it saw `g`; hence
  the reloaded object transforms every frame as the original does.  `summary()` and the non-order
  attributes are compared on the real objects only.
-/

namespace C06
open PJson

/-- `convert_value_to_numpy_type ∘ convert_value_to_base_type` is the identity on every value
    except the *string* "numpy.inf" (which comes back as `inf`) -/
theorem numpyOf_base (v : Val) (h : v ≠ .str "numpy.inf") : numpyOf (base v) = v := by
  cases v with
  | str s =>
    have : s ≠ "numpy.inf" := fun e => h (by rw [e])
    simp [base, numpyOf, this]
  | num q => rfl
  | inf => simp [base, numpyOf]

/-- the excluded point: a category literally named "numpy.inf" does not survive -/
theorem numpyOf_base_sentinel : numpyOf (base (.str "numpy.inf")) = .inf := by
  simp [base, numpyOf]

/-- What a `GroupedList` must satisfy for the dump to be faithful: well-formed (C13), no value is
    the string "numpy.inf" (the sentinel of `convert_value_to_base_type`), no number prints as
    "numpy.inf", and two leaders never print as the same JSON key (`1` and `"1"` would). -/
structure Dumpable (keyStr : Rat → String) (g : GL) : Prop where
  wf : g.WF
  noSentinel : ∀ v ∈ g.values, v ≠ sentinel
  numKey : ∀ q, Val.num q ∈ g.lst → keyStr q ≠ "numpy.inf"
  inj : ∀ a ∈ g.lst, ∀ b ∈ g.lst, tk keyStr a = tk keyStr b → a = b

theorem dumpableB_iff (keyStr : Rat → String) (g : GL) : dumpableB keyStr g = true ↔ Dumpable keyStr g := by
  have hnum : (∀ v ∈ g.lst, numKeyOk keyStr v = true) ↔ ∀ q, Val.num q ∈ g.lst → keyStr q ≠ "numpy.inf" :=
    ⟨fun h q hq => bne_iff_ne.1 (h _ hq), fun h v hv => by
      cases v with
      | num q => exact bne_iff_ne.2 (h q hv)
      | _ => rfl⟩
  simp only [dumpableB, Bool.and_eq_true, decide_eq_true_eq, List.all_eq_true, bne_iff_ne, Bool.or_eq_true,
    beq_iff_eq]
  -- the four conjuncts of `dumpableB` are the four fields, the last one as `tk a ≠ tk b ∨ a = b`
  exact ⟨fun ⟨⟨⟨hwf, hsent⟩, hkey⟩, hinj⟩ =>
      ⟨hwf, hsent, hnum.1 hkey, fun a ha b hb e => (hinj a ha b hb).resolve_left (not_not_intro e)⟩,
    fun h => ⟨⟨⟨h.wf, h.noSentinel⟩, hnum.2 h.numKey⟩, fun a ha b hb => Decidable.imp_iff_not_or.1 (h.inj a ha b hb)⟩⟩

theorem map_numpyOf_base {l : List Val} (h : ∀ v ∈ l, v ≠ sentinel) : (l.map base).map numpyOf = l := by
  rw [List.map_map]
  exact (List.map_congr_left fun v hv => numpyOf_base v (h v hv)).trans (List.map_id _)

theorem Dumpable.mem_lst {keyStr : Rat → String} {g : GL} (h : Dumpable keyStr g) {kv : Val × List Val}
    (hkv : kv ∈ g.content) : kv.1 ∈ g.lst :=
  (h.wf.wf'.mem_iff _).2 (Dict.mem_keys_of_mem hkv)

theorem Dumpable.ne_sentinel {keyStr : Rat → String} {g : GL} (h : Dumpable keyStr g) {k : Val} (hk : k ∈ g.lst) :
    k ≠ sentinel :=
  h.noSentinel k (GL.mem_values_of_mem_get (h.wf.wf'.mem_get_self hk))

/-- the leaders stay distinct under every re-keying that `tk` factors through: none of the dicts
    built from `content` loses a group -/
theorem Dumpable.nodup_map {keyStr : Rat → String} {g : GL} (h : Dumpable keyStr g) {κ : Type} (fk : Val → κ)
    (hfk : ∀ a ∈ g.lst, ∀ b ∈ g.lst, fk a = fk b → tk keyStr a = tk keyStr b) :
    (g.content.map fun kv => fk kv.1).Nodup :=
  List.pairwise_map.2 ((List.pairwise_map.1 h.wf.wf'.nodup_keys).imp_of_mem
    fun ha hb hne e => hne (h.inj _ (h.mem_lst ha) _ (h.mem_lst hb) (hfk _ (h.mem_lst ha) _ (h.mem_lst hb) e)))

theorem Dumpable.ckey_tk {keyStr : Rat → String} {g : GL} (h : Dumpable keyStr g) {k : Val} (hk : k ∈ g.lst) :
    ckey (tk keyStr k) = lookupKey keyStr k :=
  PJson.ckey_tk (h.ne_sentinel hk) fun q e => h.numKey q (e ▸ hk)

/-- **What the loader reads**: after the dump, `json.loads` and the numpy conversion, the content
    holds every group under the key the loader will look its leader up with.  Three dicts are built
    one from the other (base values, text keys, converted keys), each a fold over `g.content`. -/
theorem convContent_serialize {keyStr : Rat → String} {g : GL} (h : Dumpable keyStr g) :
    convContent (serialize keyStr g).content = g.content.map (fun kv => (lookupKey keyStr kv.1, kv.2)) := by
  have hfold {κ ν : Type} [DecidableEq κ] (fk : Val → κ) (fv : List Val → ν)
      (hfk : ∀ a b, fk a = fk b → tk keyStr a = tk keyStr b) :
      g.content.foldl (fun acc kv => aset acc (fk kv.1) (fv kv.2)) [] = g.content.map fun kv => (fk kv.1, fv kv.2) :=
    foldl_aset_of_not_mem _ _ _ [] (h.nodup_map fk fun a _ b _ => hfk a b) fun _ _ => List.not_mem_nil
  have hbase : baseDict g = g.content.map (fun kv => (base kv.1, kv.2.map base)) :=
    hfold base _ fun _ _ e => congrArg (textKey keyStr) e
  have hser : (serialize keyStr g).content = g.content.map (fun kv => (tk keyStr kv.1, kv.2.map base)) := by
    rw [serialize, hbase, List.foldl_map]
    exact hfold (tk keyStr) _ fun _ _ e => e
  rw [convContent, hser, List.foldl_map]
  refine (hfold (fun v => ckey (tk keyStr v)) (fun vs => (vs.map base).map numpyOf) fun _ _ e => ckey_inj e).trans
    (List.map_congr_left fun kv hkv => ?_)
  exact Prod.ext (h.ckey_tk (h.mem_lst hkv))
    (map_numpyOf_base fun v hv => h.noSentinel v (List.mem_flatMap.2 ⟨kv, hkv, hv⟩))

/-- **`json_deserialize_values_orders (json.loads (json.dumps (json_serialize_values_orders g)))`
    succeeds and returns the same leaders, in the same order, with the same members.** -/
theorem roundTrip_ok (keyStr : Rat → String) (g : GL) (h : Dumpable keyStr g) :
    roundTrip keyStr g = .ok (canon g) := by
  have hwf' := h.wf.wf'
  -- every order value is found under its key: the keys of the loaded content are distinct
  have hnd : (Disc.akeys (g.content.map fun kv => (lookupKey keyStr kv.1, kv.2))).Nodup := by
    rw [Disc.akeys, List.map_map]
    exact h.nodup_map (lookupKey keyStr) fun a ha b hb e => ckey_inj (by rw [h.ckey_tk ha, h.ckey_tk hb, e])
  have hfound (k) (hk : k ∈ g.lst) :
      aget? (convContent (serialize keyStr g).content) (lookupKey keyStr k) = some (g.get k) := by
    rw [convContent_serialize h]
    exact (aget?_eq_some hnd).2 (List.mem_map_of_mem (GL.mem_get (hwf'.mem_keys hk)))
  rw [roundTrip, deserialize,
    show (serialize keyStr g).order.map numpyOf = g.lst from map_numpyOf_base fun _ => h.ne_sentinel,
    foldlM_found _ _ g.get g.lst hfound]
  exact GL.ofDict_reorder hwf' hwf'.nodup_lst fun _ hk => hk

/-- **Every reader sees the reloaded `GroupedList` as it saw the original.** -/
theorem canon_same {g : GL} (h : g.WF) : Same g (canon g) := by
  have hc := canon_WF h
  have hmem := mem_canon_content h
  have hval (v : Val) : v ∈ (canon g).values ↔ v ∈ g.values := by
    simp only [GL.C13_values_agree, hmem]
  refine ⟨rfl, fun k => ?_, hval, fun a => ?_, fun a => ?_⟩
  · by_cases hk : k ∈ g.lst
    · have hvs := h.wf'.mem_get hk
      rw [GL.C13_get_agrees hc ((hmem _).2 hvs)]
    · rw [GL.C13_get_absent hk h, GL.C13_get_absent (g := canon g) hk hc]
  · cases a with
    | nan => rw [GL.C13_getGroup_nan, GL.C13_getGroup_nan]
    | val v =>
      by_cases hv : v ∈ g.values
      · obtain ⟨kv, hkv, hvk⟩ := (GL.C13_values_agree g v).1 hv
        rw [GL.C13_getGroup_agrees h hkv hvk, GL.C13_getGroup_agrees hc ((hmem kv).2 hkv) hvk]
      · rw [GL.C13_getGroup_unknown hv, GL.C13_getGroup_unknown (mt (hval v).1 hv)]
  · cases a with
    | nan => rw [GL.C13_contains_nan, GL.C13_contains_nan]
    | val v => rw [Bool.eq_iff_iff]; simp only [GL.C13_contains_agrees, hmem]

/-- **serialising the reloaded object yields the same JSON again**: the loader's normal form is a
    fixed point -/
theorem canon_idem {g : GL} (h : g.WF) : canon (canon g) = canon g := by
  have hg := (canon_same h).get
  -- `canon` re-reads every group with `get`, and `canon g` has the groups of `g` (`hg`)
  simp only [canon] at hg ⊢
  simp only [hg]

theorem dumpable_canon {keyStr : Rat → String} {g : GL} (h : Dumpable keyStr g) : Dumpable keyStr (canon g) :=
  ⟨canon_WF h.wf, fun v hv => h.noSentinel v ((canon_same h.wf).mem v |>.1 hv), h.numKey, h.inj⟩

theorem roundTrip_twice (keyStr : Rat → String) (g : GL) (h : Dumpable keyStr g) :
    roundTrip keyStr (canon g) = .ok (canon g) := by
  rw [roundTrip_ok keyStr (canon g) (dumpable_canon h), canon_idem h.wf]

open Disc

theorem labelsOf_same {g g' : GL} (h : Same g g') (isQuant : Bool) (strNan : Option String) (outFloat : Bool) :
    labelsOf g' isQuant strNan outFloat = labelsOf g isQuant strNan outFloat := by
  unfold labelsOf withNanLabel
  rw [h.lst]

theorem tableOf_same {g g' : GL} (h : Same g g') (labels : List Val) : tableOf g' labels = tableOf g labels := by
  simp only [tableOf, h.lst, h.get]

theorem transformQuantCol_same {g g' : GL} (h : Same g g') (f : String) (t : LabelTable) (strNan : Option String)
    (c : Col) : transformQuantCol f g' t strNan c = transformQuantCol f g t strNan c := by
  have hq : quantCell g' t strNan = quantCell g t strNan := by
    funext cell
    cases cell <;> simp only [quantCell, nanCellOut, nanLeaderOf, h.lst, h.grp]
  simp only [transformQuantCol, h.lst, h.cont, hq]

theorem transformQualCol_same {g g' : GL} (h : Same g g') (f : String) (t : LabelTable)
    (strNan strDefault : Option String)
    (c : Col) : transformQualCol f g' t strNan strDefault c = transformQualCol f g t strNan strDefault c := by
  have hd (v : Val) : decide (v ∉ g'.values) = decide (v ∉ g.values) := decide_eq_decide.2 (not_congr (h.mem v))
  have hdef : hasDefault g' strDefault = hasDefault g strDefault := by
    cases strDefault <;> simp only [hasDefault, decide_eq_decide.2 (h.mem _)]
  have hp : qualPrepared g' strNan strDefault = qualPrepared g strNan strDefault := by
    funext cell
    cases cell <;> simp only [qualPrepared, hd, hdef]
  have hu : unexpected g' = unexpected g := by
    funext cell
    cases cell <;> simp only [unexpected, hd]
  simp only [transformQualCol, hp, hu]

/-- the orders of two objects are read the same way, feature by feature -/
def OrdersSame (o o' : List (String × GL)) : Prop :=
  ∀ f, match aget? o f, aget? o' f with
    | some g, some g' => Same g g'
    | none, none => True
    | _, _ => False

theorem OrdersSame.cases {o o' : List (String × GL)} (h : OrdersSame o o') (f : String) :
    (aget? o f = none ∧ aget? o' f = none) ∨ ∃ g g', aget? o f = some g ∧ aget? o' f = some g' ∧ Same g g' := by
  have hf := h f
  split at hf
  · rename_i g g' e1 e2; exact .inr ⟨g, g', e1, e2, hf⟩
  · rename_i e1 e2; exact .inl ⟨e1, e2⟩
  · exact hf.elim

theorem labelsPerValues_same (s : Disc) (o' : List (String × GL)) (l : List (String × LabelTable))
    (h : OrdersSame s.orders o') (outFloat : Bool) :
    Disc.labelsPerValues { s with orders := o', lpv := l } outFloat = Disc.labelsPerValues s outFloat := by
  unfold Disc.labelsPerValues
  congr 1
  funext acc f
  rcases h.cases f with ⟨e1, e2⟩ | ⟨g, g', e1, e2, hs⟩
  · simp only [e1, e2]
  · simp only [e1, e2, labelsOf_same hs, tableOf_same hs]

theorem fit_orders (s : Disc) (o' : List (String × GL)) (l : List (String × LabelTable))
    (h : OrdersSame s.orders o') :
    Disc.fit { s with orders := o', lpv := l } = (Disc.fit s).map (fun r => { s with orders := o', lpv := r.lpv }) := by
  have hany : (s.features.any fun f => (aget? o' f).isNone) = (s.features.any fun f => (aget? s.orders f).isNone) := by
    congr 1
    funext f
    rcases h.cases f with ⟨e1, e2⟩ | ⟨g, g', e1, e2, -⟩ <;> rw [e1, e2] <;> rfl
  simp only [Disc.fit, hany, labelsPerValues_same s o' l h]
  split
  · rfl
  · cases s.labelsPerValues s.outFloat <;> rfl

theorem fit_same (s : Disc) (o' : List (String × GL)) (l : List (String × LabelTable))
    (h : OrdersSame s.orders o') {t : List (String × LabelTable)} (hfit : s.fit = .ok { s with lpv := t }) :
    Disc.fit { s with orders := o', lpv := l } = .ok { s with orders := o', lpv := t } := by
  rw [fit_orders s o' l h, hfit]; rfl

theorem transform_same (s : Disc) (o' : List (String × GL)) (h : OrdersSame s.orders o') (x : Frame) :
    Disc.transform { s with orders := o' } x = Disc.transform s x := by
  -- of the three phases of `transform`, the two column updates alone read the orders
  have hq : qUpd { s with orders := o' } = qUpd s := by
    funext f c
    rcases h.cases f with ⟨e1, e2⟩ | ⟨g, g', e1, e2, hs⟩
    · simp only [qUpd, e1, e2]
    · cases hl : aget? s.lpv f <;> simp only [qUpd, e1, e2, hl, transformQuantCol_same hs]
  have hl : lUpd { s with orders := o' } = lUpd s := by
    funext f c
    rcases h.cases f with ⟨e1, e2⟩ | ⟨g, g', e1, e2, hs⟩
    · simp only [lUpd, e1, e2]
    · cases hl : aget? s.lpv f <;> simp only [lUpd, e1, e2, hl, transformQualCol_same hs]
  rw [FrameLemmas.transform_eq, FrameLemmas.transform_eq, hq, hl]
  rfl

theorem ordersSame_canon {o : List (String × GL)} (h : ∀ fo ∈ o, fo.2.WF) :
    OrdersSame o (o.map (fun fo => (fo.1, canon fo.2))) := by
  intro f
  rw [aget?_map_snd]
  cases h1 : aget? o f with
  | none => trivial
  | some g => exact canon_same (h (f, g) (mem_of_aget? h1))

theorem reloadOrders_ok (keyStr : Rat → String) : ∀ (o : List (String × GL)), (∀ fo ∈ o, Dumpable keyStr fo.2) →
    Disc.reloadOrders keyStr o = .ok (o.map (fun fo => (fo.1, canon fo.2))) := by
  intro o h
  induction o with
  | nil => rfl
  | cons fg t ih =>
    unfold Disc.reloadOrders
    rw [roundTrip_ok keyStr fg.2 (h fg List.mem_cons_self)]
    simp only [ih fun fo hfo => h fo (List.mem_cons_of_mem _ hfo), Except.map, List.map_cons]

/-- **The JSON round trip preserves behaviour.**  For a fitted object whose orders are all
    dumpable, `load_discretizer(json.loads(json.dumps(obj.to_json())))` succeeds, rebuilds the same
    label table, and its `transform` returns on *every* frame exactly what the original returns —
    the same output or the same rejection. -/
theorem reload_behaviour (keyStr : Rat → String) (s : Disc) (t : List (String × LabelTable))
    (hd : ∀ fo ∈ s.orders, Dumpable keyStr fo.2) (hfit : s.fit = .ok { s with lpv := t }) :
    ∃ s2, s.reload keyStr = .ok s2 ∧ s2.lpv = t ∧ s2.features = s.features ∧
      ∀ x, s2.transform x = Disc.transform { s with lpv := t } x := by
  have hos := ordersSame_canon fun fo hfo => (hd fo hfo).wf
  refine ⟨{ s with orders := s.orders.map (fun fo => (fo.1, canon fo.2)), lpv := t }, ?_, rfl, rfl, ?_⟩
  · unfold Disc.reload
    rw [reloadOrders_ok keyStr s.orders hd]
    exact fit_same s _ [] hos hfit
  · intro x
    exact transform_same { s with lpv := t } _ hos x

/-- An object whose `fit` fails (it cannot be a fitted object) is not made loadable by the round
    trip: the reload fails in the same way. -/
theorem reload_error (keyStr : Rat → String) (s : Disc) (e : Err)
    (hd : ∀ fo ∈ s.orders, Dumpable keyStr fo.2) (hfit : s.fit = .error e) : s.reload keyStr = .error e := by
  have hos := ordersSame_canon fun fo hfo => (hd fo hfo).wf
  rw [Disc.reload, reloadOrders_ok keyStr s.orders hd]
  exact (fit_orders s _ [] hos).trans (by rw [hfit]; rfl)

/-! ## Non-vacuity, and the hypotheses are needed -/

private def ks (q : Rat) : String := toString q.num ++ (if q.den = 1 then ".0" else "/" ++ toString q.den)

/-- quantiles `1.0 | 2.5 (← 2.0) | inf`, content kept in another order than the list -/
private def gq : GL := ⟨[.num 1, .num (5/2), .inf],
  [(.inf, [.inf]), (.num (5/2), [.num 2, .num (5/2)]), (.num 1, [.num 1])]⟩

example : Dumpable ks gq := by
  refine ⟨by decide +kernel, by decide +kernel, ?_, by decide +kernel⟩
  intro q hq
  have : q = 1 ∨ q = 5/2 := by
    simp only [gq, List.mem_cons, Val.num.injEq, List.mem_nil_iff, or_false, reduceCtorEq] at hq
    exact hq
  rcases this with rfl | rfl <;> decide +kernel

example : roundTrip ks gq = .ok ⟨[.num 1, .num (5/2), .inf],
    [(.num 1, [.num 1]), (.num (5/2), [.num 2, .num (5/2)]), (.inf, [.inf])]⟩ := by
  decide +kernel

/-- the category `"1.0"` and the number `1` (which `ks` prints `1.0`) get the same JSON key: the dump
    loses a group (what the code does as well; `Dumpable.inj` excludes it) -/
private def gmix : GL := ⟨[.str "1.0", .num 1], [(.str "1.0", [.str "1.0"]), (.num 1, [.num 1, .num 3])]⟩
example : gmix.WF ∧ roundTrip ks gmix ≠ .ok (canon gmix) := by decide +kernel

/-- a category called "numpy.inf" comes back as the number `inf` -/
private def gsent : GL := ⟨[.str "numpy.inf"], [(.str "numpy.inf", [.str "numpy.inf"])]⟩
example : gsent.WF ∧ roundTrip ks gsent ≠ .ok (canon gsent) := by decide +kernel

end C06
