import ACModel.Model.Pipeline
import ACModel.Proofs.Sort
import ACModel.Proofs.Except

namespace PipelineLemmas
open Pipeline

/-- stable: `x` goes behind the elements with the same key -/
theorem insertsByKey {α : Type} (key : α → Rat) : InsSort.InsertsBy (fun x y => key x < key y) (insertByKey key) :=
  ⟨fun _ => rfl, fun x y t => by rw [insertByKey]; simp only [← Rat.not_le]; split <;> simp⟩

theorem sortByKey_eq_foldr {α : Type} (key : α → Rat) (l : List α) :
    sortByKey key l = l.reverse.foldr (insertByKey key) [] := by
  rw [List.foldr_reverse]; rfl

theorem perm_sortByKey {α : Type} (key : α → Rat) (l : List α) : (sortByKey key l).Perm l :=
  sortByKey_eq_foldr key l ▸ ((insertsByKey key).foldr_perm _).trans l.reverse_perm

theorem mem_sortByKey {α : Type} (key : α → Rat) (y : α) (l : List α) : y ∈ sortByKey key l ↔ y ∈ l :=
  (perm_sortByKey key l).mem_iff

theorem nodup_sortByKey {α : Type} (key : α → Rat) (l : List α) (h : l.Nodup) : (sortByKey key l).Nodup :=
  (perm_sortByKey key l).nodup_iff.2 h

theorem sorted_sortByKey {α : Type} (key : α → Rat) (l : List α) :
    (sortByKey key l).Pairwise (fun a b => key a ≤ key b) :=
  sortByKey_eq_foldr key l ▸ (insertsByKey key).foldr_pairwise (s := fun a b => key a ≤ key b)
    (fun _ _ _ => Rat.le_trans) (fun _ _ => Rat.le_of_lt) (fun _ _ => Rat.not_lt.1) _

theorem nodup_uniques (rows : Rows) : (uniques rows).Nodup := by
  unfold uniques
  generalize rows.filterMap (·.1) = l
  suffices ∀ acc : List Val, acc.Nodup → (l.foldl (fun acc v => if v ∈ acc then acc else acc ++ [v]) acc).Nodup from
    this [] .nil
  induction l with
  | nil => exact fun _ h => h
  | cons v t ih =>
    intro acc h
    refine ih (if v ∈ acc then acc else acc ++ [v]) ?_
    split
    · exact h
    · exact h.concat ‹_›

end PipelineLemmas
