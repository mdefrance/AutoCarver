import ACModel.Model.BaseDisc
import ACModel.Proofs.Sort
/-
  `find_quantiles` (`BaseDisc.findQuantiles`): `Props/C09` reads its theorems off these lemmas, `Props/C11` maps them
  along a re-encoding of the values.
-/

namespace BaseDisc

theorem insertsSorted : InsSort.InsertsBy (· ≤ ·) insertSorted := ⟨fun _ => rfl, fun _ _ _ => rfl⟩

theorem sortRats_eq_foldr : ∀ l, sortRats l = l.foldr insertSorted []
  | [] => rfl
  | x :: t => congrArg (insertSorted x) (sortRats_eq_foldr t)

theorem mem_sortRats {y : Rat} {l : List Rat} : y ∈ sortRats l ↔ y ∈ l :=
  (sortRats_eq_foldr l ▸ insertsSorted.foldr_perm l).mem_iff

theorem sorted_sortRats (l : List Rat) : (sortRats l).Pairwise (· ≤ ·) :=
  sortRats_eq_foldr l ▸ insertsSorted.foldr_pairwise (s := (· ≤ ·)) (fun _ _ _ => Rat.le_trans) (fun _ _ => id)
    (fun _ _ h => Rat.le_of_lt (Rat.not_le.1 h)) l

theorem mem_dedupSorted {y : Rat} {l : List Rat} : y ∈ dedupSorted l ↔ y ∈ l := by
  -- the branches of `dedupSorted`: 1 the list is `a :: a :: t` (`b` substituted) and the head is dropped;
  -- 2 it is `a :: b :: t` with `a ≠ b` and the head stays; 3 it has fewer than two elements and is returned
  fun_induction dedupSorted l with
  | case1 a t ih => simp [ih]
  | case2 a b t hab ih => simp [ih]
  | case3 => rfl

theorem strictSorted_dedupSorted : ∀ {l : List Rat}, l.Pairwise (· ≤ ·) → (dedupSorted l).Pairwise (· < ·)
  | [], _ => .nil
  | [_], _ => List.pairwise_singleton _ _
  | a :: b :: t, h => by
    have ⟨ha, hbt⟩ := List.pairwise_cons.1 h
    rw [dedupSorted]
    split
    · exact strictSorted_dedupSorted hbt
    · rename_i hab
      refine List.pairwise_cons.2 ⟨fun c hc => ?_, strictSorted_dedupSorted hbt⟩
      -- a < b ≤ c
      have hlt : a < b := Rat.lt_of_le_of_ne (ha b List.mem_cons_self) hab
      have hbc : b ≤ c :=
        (List.mem_cons.1 (mem_dedupSorted.1 hc)).elim (· ▸ Rat.le_refl) ((List.pairwise_cons.1 hbt).1 c)
      exact Rat.not_le.1 fun hca => Rat.not_le.2 hlt (Rat.le_trans hbc hca)

/-- the boundaries as `find_quantiles` collects them, before `numpy.unique` -/
def rawQuantiles (h : Hist) (lenDf q : Nat) : List Rat :=
  if h.any (fun p => isFrequent lenDf q p.2) then
    (splitRuns lenDf q h []).flatMap (fun run => cutRun run lenDf q) ++
      (h.filter (fun p => isFrequent lenDf q p.2)).map (·.1)
  else cutRun h lenDf q

theorem findQuantiles_eq (h : Hist) (lenDf q : Nat) (dedup : Bool) :
    findQuantiles h lenDf q dedup =
      if dedup then dedupSorted (sortRats (rawQuantiles h lenDf q)) else sortRats (rawQuantiles h lenDf q) := rfl

theorem mem_findQuantiles {h : Hist} {lenDf q : Nat} {dedup : Bool} {v : Rat} :
    v ∈ findQuantiles h lenDf q dedup ↔ v ∈ rawQuantiles h lenDf q := by
  rw [findQuantiles_eq]
  cases dedup <;> simp [mem_dedupSorted, mem_sortRats]

theorem elemAt_mem {h : Hist} {j : Nat} {v : Rat} (hh : elemAt h j = some v) : v ∈ h.map (·.1) := by
  fun_induction elemAt h j with
  | case1 => cases hh
  | case2 => cases hh; exact List.mem_cons_self
  | case3 v c t j hge ih => exact List.mem_cons_of_mem _ (ih hh)

theorem maxOf_eq_getLast? : ∀ (h : Hist), maxOf h = h.getLast?.map (·.1)
  | [] => rfl
  | [_] => rfl
  | _ :: b :: t => by rw [List.getLast?_cons_cons, ← maxOf_eq_getLast? (b :: t)]; rfl

theorem maxOf_mem {h : Hist} {v : Rat} (hh : maxOf h = some v) : v ∈ h.map (·.1) := by
  rw [maxOf_eq_getLast?] at hh
  obtain ⟨p, hp, rfl⟩ := Option.map_eq_some_iff.1 hh
  exact List.mem_map_of_mem (List.mem_of_getLast? hp)

theorem cutRun_mem {run : Hist} {lenDf q : Nat} {v : Rat} (hv : v ∈ cutRun run lenDf q) :
    v ∈ run.map (·.1) := by
  revert hv
  fun_cases cutRun run lenDf q
  · nofun
  · exact fun hv => let ⟨i, _, hi⟩ := List.mem_filterMap.1 hv; elemAt_mem hi
  · exact fun hv => maxOf_mem (Option.mem_toList.1 hv)

theorem splitRuns_flatten (lenDf q : Nat) (h cur : Hist) :
    (splitRuns lenDf q h cur).flatten = cur.reverse ++ h.filter (fun p => !isFrequent lenDf q p.2) := by
  fun_induction splitRuns lenDf q h cur with
  | case1 => simp
  | case2 v c t cur hf ih => simp [ih, hf]
  | case3 v c t cur hf ih => simp [ih, hf]

theorem rawQuantiles_observed {h : Hist} {lenDf q : Nat} {v : Rat} (hv : v ∈ rawQuantiles h lenDf q) :
    v ∈ h.map (·.1) := by
  unfold rawQuantiles at hv
  split at hv
  · rcases List.mem_append.1 hv with h1 | h1
    · obtain ⟨run, hrun, hvr⟩ := List.mem_flatMap.1 h1
      obtain ⟨x, hx, rfl⟩ := List.mem_map.1 (cutRun_mem hvr)
      have hx' : x ∈ (splitRuns lenDf q h []).flatten := List.mem_flatten.2 ⟨run, hrun, hx⟩
      rw [splitRuns_flatten] at hx'
      have hx'' : x ∈ h ∧ isFrequent lenDf q x.2 = false := by simpa using hx'
      exact List.mem_map_of_mem hx''.1
    · obtain ⟨x, hx, rfl⟩ := List.mem_map.1 h1
      exact List.mem_map_of_mem (List.mem_filter.1 hx).1
  · exact cutRun_mem hv

end BaseDisc
