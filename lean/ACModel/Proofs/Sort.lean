/-
  The insertion sorts of the model all insert with a function of one shape, `InsertsBy`; what the
  proofs need of a sort is proved once for that shape.
-/

namespace InsSort
variable {α : Type} {r : α → α → Prop} [DecidableRel r] {ins : α → List α → List α}

/-- `ins x l` puts `x` in front of the first `y` of `l` with `r x y`, at the end if there is none -/
structure InsertsBy (r : α → α → Prop) [DecidableRel r] (ins : α → List α → List α) : Prop where
  nil : ∀ x, ins x [] = [x]
  cons : ∀ x y t, ins x (y :: t) = if r x y then x :: y :: t else y :: ins x t

theorem InsertsBy.perm (h : InsertsBy r ins) (x : α) (l : List α) : (ins x l).Perm (x :: l) := by
  induction l with
  | nil => rw [h.nil]
  | cons y t ih =>
    rw [h.cons]
    split
    · exact .refl _
    · exact (ih.cons y).trans (.swap x y t)

theorem InsertsBy.foldr_perm (h : InsertsBy r ins) (l : List α) : (l.foldr ins []).Perm l := by
  induction l with
  | nil => exact .refl _
  | cons x t ih => exact (h.perm x _).trans (ih.cons x)

theorem InsertsBy.map {β : Type} {r' : β → β → Prop} [DecidableRel r'] {ins' : β → List β → List β}
    (h : InsertsBy r ins) (h' : InsertsBy r' ins') (f : α → β) (hf : ∀ a b, r' (f a) (f b) ↔ r a b)
    (x : α) (l : List α) :
    ins' (f x) (l.map f) = (ins x l).map f := by
  induction l with
  | nil => rw [List.map_nil, h.nil, h'.nil, List.map_cons, List.map_nil]
  | cons y t ih =>
    rw [List.map_cons, h.cons, h'.cons, ih]
    by_cases hxy : r x y <;> simp [hxy, hf]

variable {s : α → α → Prop} (h : InsertsBy r ins) (htr : ∀ a b c, s a b → s b c → s a c)
  (hr : ∀ a b, r a b → s a b) (hnr : ∀ a b, ¬ r a b → s b a)
include h htr hr hnr

/-- inserting into a list ordered by a transitive `s` keeps it ordered, when `r x y` puts `x` before
    `y` in the sense of `s` and `¬ r x y` puts it after -/
theorem InsertsBy.pairwise (x : α) (l : List α) (hl : l.Pairwise s) : (ins x l).Pairwise s := by
  induction l with
  | nil => simp [h.nil]
  | cons y t ih =>
    have ⟨hy, ht⟩ := List.pairwise_cons.1 hl
    rw [h.cons]
    split
    · next hxy => -- `x` goes in front: it is before `y`, and through `y` before the rest
      exact List.pairwise_cons.2
        ⟨fun z hz => (List.mem_cons.1 hz).elim (· ▸ hr _ _ hxy) (fun hz => htr _ _ _ (hr _ _ hxy) (hy z hz)), hl⟩
    · next hxy => -- `x` goes into `t`, behind `y`: an element of `ins x t` is `x` or one of `t`
      refine List.pairwise_cons.2 ⟨fun z hz => ?_, ih ht⟩
      exact (List.mem_cons.1 ((h.perm x t).mem_iff.1 hz)).elim (· ▸ hnr _ _ hxy) (hy z)

theorem InsertsBy.foldr_pairwise (l : List α) : (l.foldr ins []).Pairwise s := by
  induction l with
  | nil => exact .nil
  | cons x t ih => exact h.pairwise htr hr hnr x _ ih

end InsSort
