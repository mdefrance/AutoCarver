import ACModel.Model.Remove
import ACModel.Proofs.Except
/-
  Association lists with `dict` semantics (`aget?`, `aset`, `aerase`, `akeys`), as every model uses
  them for Python dicts.  `Dict` (Model/GroupedList) is the same structure on `Val × List Val`
  with its own copies of the functions; `Dict.get?_eq_aget?` and `Dict.set_eq_aset` (Proofs/Dict.lean)
  let one set of lemmas serve both.
-/

open Disc (akeys aerase)

variable {α β : Type}

@[simp] theorem akeys_cons (kv : α × β) (t : List (α × β)) : akeys (kv :: t) = kv.1 :: akeys t := rfl

variable [DecidableEq α]

theorem aget?_cons (kv : α × β) (t : List (α × β)) (k : α) :
    aget? (kv :: t) k = if kv.1 = k then some kv.2 else aget? t k := rfl

theorem aset_cons (kv : α × β) (t : List (α × β)) (k : α) (v : β) :
    aset (kv :: t) k v = if kv.1 = k then (kv.1, v) :: t else kv :: aset t k v := rfl

theorem aget?_aset (l : List (α × β)) (k k' : α) (v : β) :
    aget? (aset l k v) k' = if k = k' then some v else aget? l k' := by
  induction l with
  | nil => rfl
  | cons h t ih =>
    rw [aset_cons, aget?_cons]
    by_cases hk : h.1 = k
    · rw [if_pos hk, aget?_cons, ← hk]
      split <;> rfl
    · rw [if_neg hk, aget?_cons, ih]
      by_cases e : k = k'
      · subst e; rw [if_neg hk, if_pos rfl, if_pos rfl]
      · rw [if_neg e, if_neg e]

theorem aget?_eq_none {l : List (α × β)} {k : α} : aget? l k = none ↔ k ∉ akeys l := by
  induction l with
  | nil => simp [aget?, akeys]
  | cons h t ih => rw [aget?_cons]; split <;> simp_all [eq_comm]

theorem mem_akeys {l : List (α × β)} {k : α} : k ∈ akeys l ↔ ∃ v, aget? l k = some v := by
  rw [← Option.ne_none_iff_exists', Ne, aget?_eq_none, Classical.not_not]

theorem mem_of_aget? {l : List (α × β)} {k : α} {v : β} (h : aget? l k = some v) : (k, v) ∈ l := by
  induction l with
  | nil => cases h
  | cons hd t ih =>
    rw [aget?_cons] at h
    split at h
    · rename_i e; cases h; cases e; exact List.mem_cons_self
    · exact List.mem_cons_of_mem _ (ih h)

theorem aget?_eq_some {l : List (α × β)} (hn : (akeys l).Nodup) {k : α} {v : β} :
    aget? l k = some v ↔ (k, v) ∈ l := by
  refine ⟨mem_of_aget?, fun h => ?_⟩
  induction l with
  | nil => cases h
  | cons hd t ih =>
    rw [akeys_cons, List.nodup_cons] at hn
    rw [aget?_cons]
    rcases List.mem_cons.1 h with rfl | h
    · rw [if_pos rfl]
    · rw [if_neg (fun e => hn.1 (by rw [e]; exact List.mem_map_of_mem h)), ih hn.2 h]

theorem akeys_aset (l : List (α × β)) (k : α) (v : β) :
    akeys (aset l k v) = if k ∈ akeys l then akeys l else akeys l ++ [k] := by
  induction l with
  | nil => rfl
  | cons h t ih =>
    rw [aset_cons]
    by_cases hk : h.1 = k
    · simp [hk]
    · simp only [if_neg hk, akeys_cons, ih, List.mem_cons, Ne.symm hk, false_or]; split <;> rfl

theorem aset_of_not_mem {l : List (α × β)} {k : α} (h : k ∉ akeys l) (v : β) : aset l k v = l ++ [(k, v)] := by
  induction l with
  | nil => rfl
  | cons hd t ih =>
    rw [akeys_cons, List.mem_cons, not_or] at h
    rw [aset_cons, if_neg (Ne.symm h.1), ih h.2, List.cons_append]

theorem foldl_aset_of_not_mem {γ : Type} (fk : γ → α) (fv : γ → β) (l : List γ) (acc : List (α × β))
    (hn : (l.map fk).Nodup) (hk : ∀ x ∈ l, fk x ∉ akeys acc) :
    l.foldl (fun acc x => aset acc (fk x) (fv x)) acc = acc ++ l.map fun x => (fk x, fv x) := by
  induction l generalizing acc with
  | nil => exact (List.append_nil acc).symm
  | cons x t ih =>
    rw [List.map_cons, List.nodup_cons] at hn
    rw [List.foldl_cons, aset_of_not_mem (hk x List.mem_cons_self), ih _ hn.2,
      List.append_assoc, List.map_cons, List.singleton_append]
    intro y hy hmem
    rw [akeys, List.map_append, List.mem_append] at hmem
    exact hmem.elim (hk y (List.mem_cons_of_mem _ hy)) fun h =>
      hn.1 ((List.mem_singleton.1 h : fk y = fk x) ▸ List.mem_map_of_mem hy)

theorem aset_self {l : List (α × β)} {k : α} {v : β} (h : aget? l k = some v) : aset l k v = l := by
  induction l with
  | nil => cases h
  | cons hd t ih =>
    rw [aget?_cons] at h
    rw [aset_cons]
    split at h
    · rename_i e; cases h; rw [if_pos e]
    · rename_i e; rw [if_neg e, ih h]

theorem aerase_cons (kv : α × β) (t : List (α × β)) (k : α) :
    aerase (kv :: t) k = if kv.1 = k then aerase t k else kv :: aerase t k := rfl

theorem aget?_aerase (l : List (α × β)) (k k' : α) :
    aget? (aerase l k) k' = if k = k' then none else aget? l k' := by
  induction l with
  | nil => exact (ite_self _).symm
  | cons h t ih =>
    rw [aerase_cons, aget?_cons]
    by_cases hk : h.1 = k
    · rw [if_pos hk, ih, ← hk]
      split <;> rfl
    · rw [if_neg hk, aget?_cons, ih]
      by_cases e : k = k'
      · subst e; rw [if_neg hk, if_pos rfl, if_pos rfl]
      · rw [if_neg e, if_neg e]

variable {γ : Type}

theorem aget?_map_snd (h : β → γ) (l : List (α × β)) (k : α) :
    aget? (l.map fun p => (p.1, h p.2)) k = (aget? l k).map h := by
  induction l with
  | nil => rfl
  | cons hd t ih => rw [List.map_cons, aget?_cons, aget?_cons, ih]; split <;> rfl

theorem aset_map_snd (h : β → γ) (l : List (α × β)) (k : α) (v : β) :
    aset (l.map fun p => (p.1, h p.2)) k (h v) = (aset l k v).map fun p => (p.1, h p.2) := by
  induction l with
  | nil => rfl
  | cons hd t ih => rw [List.map_cons, aset_cons, aset_cons, ih]; split <;> rfl

theorem aget?_map_self (f : α → β) (l : List α) (k : α) :
    aget? (l.map fun x => (x, f x)) k = if k ∈ l then some (f k) else none := by
  induction l with
  | nil => rfl
  | cons x t ih =>
    rw [List.map_cons, aget?_cons, ih]
    by_cases h : x = k
    · simp [h]
    · simp [h, Ne.symm h]

theorem aget?_foldl_aset (v : β) (ks : List α) (acc : List (α × β)) (k : α) :
    aget? (ks.foldl (fun acc k => aset acc k v) acc) k = if k ∈ ks then some v else aget? acc k := by
  -- the slot is the entry under `k`; the step of key `a` writes it when `a = k`
  have := List.foldl_get (get := (aget? · k)) (w := (· = k)) (val := fun _ => some v) (v := some v) ks acc
    (fun a _ s => aget?_aset s a k v) (fun _ _ _ => rfl)
  simpa using this

/-- The fold is Python's `acc.update(new)`. -/
theorem aget?_foldl_aset_pairs (new acc : List (α × β)) (k : α) (hn : (akeys new).Nodup) :
    aget? (new.foldl (fun a kv => aset a kv.1 kv.2) acc) k =
      match aget? new k with
      | some v => some v
      | none => aget? acc k := by
  induction new generalizing acc with
  | nil => rfl
  | cons kv t ih =>
    rw [akeys_cons, List.nodup_cons] at hn
    rw [List.foldl_cons, ih _ hn.2, aget?_cons, aget?_aset]
    by_cases e : kv.1 = k
    · rw [if_pos e, if_pos e, aget?_eq_none.2 (e ▸ hn.1)]
    · rw [if_neg e, if_neg e]

theorem aget?_eq_find? (l : List (α × β)) (k : α) : aget? l k = (l.find? fun kv => kv.1 == k).map (·.2) := by
  induction l with
  | nil => rfl
  | cons hd t ih =>
    rw [aget?_cons, List.find?_cons, ih]
    by_cases e : hd.1 = k
    · rw [if_pos e, beq_iff_eq.2 e]; rfl
    · rw [if_neg e, beq_eq_false_iff_ne.2 e]

theorem aget?_perm {l l' : List (α × β)} (hn : (akeys l).Nodup) (hp : l.Perm l') (k : α) : aget? l k = aget? l' k := by
  have hn' : (akeys l').Nodup := (hp.map _).nodup_iff.1 hn
  cases h : aget? l k with
  | none => exact (aget?_eq_none.2 fun hk => aget?_eq_none.1 h ((hp.map _).mem_iff.2 hk)).symm
  | some v => exact ((aget?_eq_some hn').2 (hp.mem_iff.1 ((aget?_eq_some hn).1 h))).symm

theorem List.foldlM_aset_get {ε : Type} (ρ : α → Except ε β) (l : List α) {acc out : List (α × β)}
    (h : l.foldlM (fun acc k => (ρ k).map (aset acc k)) acc = .ok out) (k : α) :
    if k ∈ l then ∃ v, ρ k = .ok v ∧ aget? out k = some v else aget? out k = aget? acc k := by
  induction l generalizing acc with
  | nil => cases h; rw [if_neg List.not_mem_nil]
  | cons a t ih =>
    rw [List.foldlM_cons, Except.monadBind_eq, Except.bind_eq_ok] at h
    obtain ⟨acc1, h1, h⟩ := h
    obtain ⟨v, hv, rfl⟩ := Except.map_eq_ok.1 h1
    have := ih h
    by_cases hk : k ∈ t
    · rw [if_pos hk] at this
      rwa [if_pos (List.mem_cons_of_mem a hk)]
    · rw [if_neg hk, aget?_aset] at this
      by_cases ha : a = k
      · rw [if_pos (ha ▸ List.mem_cons_self)]
        exact ⟨v, ha ▸ hv, by rw [this, if_pos ha]⟩
      · rw [if_neg fun h => (List.mem_cons.1 h).elim (fun e => ha e.symm) hk, this, if_neg ha]
