import ACModel.Model.Discretizer
import ACModel.Proofs.AList
/-
  `BaseDiscretizer.fit` and the label table: when `fit` returns and when it raises, and what
  `_get_labels_per_values` stores under each feature (a table computed from that feature alone).
-/

theorem Disc.fit_eq (s : Disc) : s.fit =
    if s.features.any (fun f => (aget? s.orders f).isNone) then .error (Err.assertion "Missing values_orders")
    else (s.labelsPerValues s.outFloat).map fun t => { s with lpv := t } := by
  unfold Disc.fit
  split
  · rfl
  · cases s.labelsPerValues s.outFloat <;> rfl

theorem Disc.fit_eq_ok {s s' : Disc} : s.fit = .ok s' ↔
    s.features.any (fun f => (aget? s.orders f).isNone) = false ∧
      ∃ t, s.labelsPerValues s.outFloat = .ok t ∧ { s with lpv := t } = s' := by
  rw [Disc.fit_eq]
  split <;> simp [*]

theorem Disc.fit_eq_error {s : Disc} {e : Err} : s.fit = .error e ↔
    s.features.any (fun f => (aget? s.orders f).isNone) = true ∧ e = Err.assertion "Missing values_orders" ∨
      s.features.any (fun f => (aget? s.orders f).isNone) = false ∧ s.labelsPerValues s.outFloat = .error e := by
  rw [Disc.fit_eq]
  split
  · simp [*, eq_comm]
  · simp [*]

namespace MultiLemmas
open Disc

/-- what `_get_labels_per_values` stores for feature `f` (`tableRes` without the error: `tableFor_eq`) -/
def tableFor (s : Disc) (b : Bool) (f : String) : Option LabelTable :=
  match aget? s.orders f with
  | none => none
  | some g => match labelsOf g (decide (f ∈ s.quant)) s.strNan b with
    | .ok labels => some (tableOf g labels)
    | .error _ => none

/-- the table `_get_labels_per_values` computes for feature `f`, or the error it stops with (`tableFor_eq`) -/
def tableRes (s : Disc) (b : Bool) (f : String) : Except Err LabelTable :=
  match aget? s.orders f with
  | none => .error Err.keyError
  | some g => (labelsOf g (decide (f ∈ s.quant)) s.strNan b).map (tableOf g)

theorem labelsPerValues_eq (s : Disc) (b : Bool) :
    s.labelsPerValues b = s.features.foldlM (fun acc f => (tableRes s b f).map (aset acc f)) [] := by
  unfold labelsPerValues
  congr 1; funext acc f
  unfold tableRes
  cases aget? s.orders f with
  | none => rfl
  | some g => dsimp only; cases labelsOf g (decide (f ∈ s.quant)) s.strNan b <;> rfl

theorem tableFor_eq (s : Disc) (b : Bool) (f : String) : tableFor s b f = (tableRes s b f).toOption := by
  unfold tableFor tableRes
  cases aget? s.orders f with
  | none => rfl
  | some g => dsimp only; cases labelsOf g (decide (f ∈ s.quant)) s.strNan b <;> rfl

theorem labelsPerValues_entry {s : Disc} {b : Bool} {t : List (String × LabelTable)}
    (h : s.labelsPerValues b = .ok t) (f : String) :
    if f ∈ s.features then ∃ tb, tableRes s b f = .ok tb ∧ aget? t f = some tb else aget? t f = none :=
  List.foldlM_aset_get (tableRes s b) s.features (labelsPerValues_eq s b ▸ h) f

theorem labelsPerValues_get (s : Disc) (b : Bool) (t : List (String × LabelTable))
    (h : s.labelsPerValues b = .ok t) : ∀ f ∈ s.features, ∃ tb, tableFor s b f = some tb ∧ aget? t f = some tb :=
  fun f hf =>
    have ⟨tb, hv, ho⟩ := (if_pos hf).mp (labelsPerValues_entry h f)
    ⟨tb, by rw [tableFor_eq, hv]; rfl, ho⟩

theorem fit_table (s s' : Disc) (h : s.fit = .ok s') :
    (∀ f ∈ s.features, ∃ tb, tableFor s s.outFloat f = some tb ∧ aget? s'.lpv f = some tb) ∧
    s' = { s with lpv := s'.lpv } := by
  obtain ⟨_, t, hl, rfl⟩ := Disc.fit_eq_ok.1 h
  exact ⟨labelsPerValues_get s s.outFloat t hl, rfl⟩

end MultiLemmas
