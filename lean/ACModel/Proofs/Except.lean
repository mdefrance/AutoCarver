import ACModel.Model.Value
/-
  `Except` as the development uses it (a Python call that returns or raises).  `Post E P x`: `x`
  ends in a value satisfying `P` or in an error satisfying `E`.  "Completes with a well-formed
  result or raises an AssertionError" is `Post Err.IsAssertion WF`; what holds of a successful run
  alone is `Post (fun _ => True) P`.  The `List` part: loops in `Except`, after the few general
  list facts that core lacks.
-/

/-- Python's `AssertionError`, with any message -/
def Err.IsAssertion (e : Err) : Prop := ∃ m, e = Err.assertion m

namespace Except
variable {ε α β : Type} {E E' : ε → Prop} {P P' : α → Prop} {Q : β → Prop}

structure Post (E : ε → Prop) (P : α → Prop) (x : Except ε α) : Prop where
  of_ok : ∀ {a}, x = .ok a → P a
  of_error : ∀ {e}, x = .error e → E e

theorem Post.ok {a : α} (h : P a) : Post E P (.ok a) :=
  ⟨fun hx => Except.ok.inj hx ▸ h, nofun⟩

theorem Post.error {e : ε} (h : E e) : Post E P (.error e : Except ε α) :=
  ⟨nofun, fun hx => Except.error.inj hx ▸ h⟩

theorem Post.ite {c : Prop} [Decidable c] {x y : Except ε α} (hx : c → Post E P x) (hy : ¬c → Post E P y) :
    Post E P (if c then x else y) := by
  split
  · exact hx ‹_›
  · exact hy ‹_›

theorem Post.mono {x : Except ε α} (h : Post E P x) (hE : ∀ e, E e → E' e) (hP : ∀ a, P a → P' a) : Post E' P' x :=
  ⟨fun hx => hP _ (h.of_ok hx), fun hx => hE _ (h.of_error hx)⟩

theorem Post.trivial {x : Except ε α} : Post (fun _ => True) (fun _ => True) x :=
  ⟨fun _ => True.intro, fun _ => True.intro⟩

theorem Post.bind {x : Except ε α} {f : α → Except ε β} (hx : Post E P x) (hf : ∀ a, P a → Post E Q (f a)) :
    Post E Q (x.bind f) := by
  cases x with
  | ok a => exact hf a (hx.of_ok rfl)
  | error e => exact .error (hx.of_error rfl)

theorem Post.foldlM {f : β → α → Except ε β} {l : List α} {b : β}
    (hf : ∀ b, ∀ a ∈ l, Q b → Post E Q (f b a)) (hb : Q b) : Post E Q (l.foldlM f b) := by
  induction l generalizing b with
  | nil => exact .ok hb
  | cons a l ih =>
    exact (hf b a List.mem_cons_self hb).bind fun _ hb' => ih (fun b a ha => hf b a (List.mem_cons_of_mem _ ha)) hb'

@[simp] theorem bind_eq_ok {x : Except ε α} {f : α → Except ε β} {b : β} :
    x.bind f = .ok b ↔ ∃ a, x = .ok a ∧ f a = .ok b := by
  cases x <;> simp [Except.bind]

@[simp] theorem bind_eq_error {x : Except ε α} {f : α → Except ε β} {e : ε} :
    x.bind f = .error e ↔ x = .error e ∨ ∃ a, x = .ok a ∧ f a = .error e := by
  cases x <;> simp [Except.bind]

@[simp] theorem map_eq_ok {x : Except ε α} {f : α → β} {b : β} :
    x.map f = .ok b ↔ ∃ a, x = .ok a ∧ f a = b := by
  cases x <;> simp [Except.map]

@[simp] theorem map_eq_error {x : Except ε α} {f : α → β} {e : ε} : x.map f = .error e ↔ x = .error e := by
  cases x <;> simp [Except.map]

@[simp] theorem ok_bind (a : α) (f : α → Except ε β) : (Except.ok a).bind f = f a := rfl

theorem bind_map (x : Except ε α) (f : α → β) {γ : Type} (g : β → Except ε γ) :
    (x.map f).bind g = x.bind fun a => g (f a) := by cases x <;> rfl

theorem map_bind (x : Except ε α) (f : α → Except ε β) {γ : Type} (g : β → γ) :
    (x.bind f).map g = x.bind fun a => (f a).map g := by cases x <;> rfl

@[simp] theorem monadBind_eq (x : Except ε α) (f : α → Except ε β) : x >>= f = x.bind f := rfl

end Except

namespace List
variable {ε α σ τ κ ι β : Type}

theorem Nodup.concat {l : List α} {a : α} (hn : l.Nodup) (ha : a ∉ l) : (l ++ [a]).Nodup :=
  (perm_append_singleton a l).nodup_iff.2 (nodup_cons.2 ⟨ha, hn⟩)

theorem all_mem_iff [DecidableEq α] {l m : List α} : l.all (· ∈ m) = true ↔ ∀ k ∈ l, k ∈ m := by simp

theorem filterMap_eq_self {f : α → Option α} {l : List α} (h : ∀ x ∈ l, f x = some x) : l.filterMap f = l := by
  induction l with
  | nil => rfl
  | cons a t ih => rw [filterMap_cons, h a mem_cons_self, ih fun x hx => h x (mem_cons_of_mem _ hx)]

theorem eraseDups_of_nodup [DecidableEq α] {l : List α} (hn : l.Nodup) : l.eraseDups = l := by
  induction l with
  | nil => rfl
  | cons a t ih =>
    have hn' := nodup_cons.1 hn
    rw [eraseDups_cons, filter_eq_self.2 fun b hb => by simpa using fun e : b = a => hn'.1 (e ▸ hb), ih hn'.2]

theorem zip_prefix_sub (a b : List α) (c : List β) : ∀ p ∈ a.zip c, p ∈ (a ++ b).zip c := by
  induction a generalizing c with
  | nil => simp
  | cons x t ih =>
    cases c with
    | nil => simp
    | cons y u =>
      intro p hp
      rw [List.cons_append, List.zip_cons_cons, List.mem_cons] at *
      exact hp.imp_right (ih u p)

theorem mapM_except_ok {f : α → Except ε β} {g : α → β} {l : List α} (h : ∀ a ∈ l, f a = .ok (g a)) :
    l.mapM f = .ok (l.map g) := by
  induction l with
  | nil => rfl
  | cons a l ih =>
    rw [List.mapM_cons, h a mem_cons_self, ih fun a ha => h a (mem_cons_of_mem _ ha)]
    rfl

theorem filterMapM_except_ok {f : α → Except ε (Option β)} {g : α → Option β} {l : List α}
    (h : ∀ a ∈ l, f a = .ok (g a)) : l.filterMapM f = .ok (l.filterMap g) := by
  induction l with
  | nil => rfl
  | cons a l ih =>
    rw [List.filterMapM_cons, h a mem_cons_self, ih fun a ha => h a (mem_cons_of_mem _ ha)]
    cases hg : g a <;> simp [hg] <;> rfl

theorem foldlM_except_ok {f : σ → α → Except ε σ} {g : σ → α → σ} {l : List α} (s : σ)
    (h : ∀ a ∈ l, ∀ s, f s a = .ok (g s a)) : l.foldlM f s = .ok (l.foldl g s) := by
  induction l generalizing s with
  | nil => rfl
  | cons a l ih =>
    rw [foldlM_cons, h a mem_cons_self]
    exact ih _ fun b hb => h b (mem_cons_of_mem _ hb)

theorem foldlM_hom {f : σ → κ → Except ε σ} {g : τ → κ → Except ε τ} (Φ : σ → τ) (l : List κ) {s s' : σ}
    (hstep : ∀ a ∈ l, ∀ s s', f s a = .ok s' → g (Φ s) a = .ok (Φ s')) (h : l.foldlM f s = .ok s') :
    l.foldlM g (Φ s) = .ok (Φ s') := by
  induction l generalizing s with
  | nil => cases h; rfl
  | cons a l ih =>
    rw [foldlM_cons, Except.monadBind_eq, Except.bind_eq_ok] at h ⊢
    obtain ⟨s1, h1, h⟩ := h
    exact ⟨Φ s1, hstep a mem_cons_self s s1 h1, ih (fun a ha => hstep a (mem_cons_of_mem _ ha)) h⟩

/-- `get` is a slot of the state that a step overwrites (when `w a`, with `val a`) or leaves alone -/
theorem foldlM_get {f : σ → κ → Except ε σ} (get : σ → β) (w : κ → Prop) [DecidablePred w] (val : κ → β) (v : β)
    (l : List κ) {s s' : σ} (hstep : ∀ a ∈ l, ∀ s s', f s a = .ok s' → get s' = if w a then val a else get s)
    (hv : ∀ a ∈ l, w a → val a = v) (h : l.foldlM f s = .ok s') :
    get s' = if ∃ a ∈ l, w a then v else get s := by
  induction l generalizing s with
  | nil => cases h; rw [if_neg fun ⟨_, h, _⟩ => not_mem_nil h]
  | cons a t ih =>
    rw [foldlM_cons, Except.monadBind_eq, Except.bind_eq_ok] at h
    obtain ⟨s1, h1, h⟩ := h
    rw [ih (fun b hb => hstep b (mem_cons_of_mem _ hb)) (fun b hb => hv b (mem_cons_of_mem _ hb)) h,
      hstep a mem_cons_self s s1 h1]
    by_cases h2 : ∃ b ∈ t, w b
    · obtain ⟨b, hb, hw⟩ := h2
      rw [if_pos ⟨b, hb, hw⟩, if_pos ⟨b, mem_cons_of_mem _ hb, hw⟩]
    · rw [if_neg h2]
      by_cases h3 : w a
      · rw [if_pos h3, if_pos ⟨a, mem_cons_self, h3⟩, hv a mem_cons_self h3]
      · rw [if_neg h3, if_neg]
        rintro ⟨b, hb, hw⟩
        rcases mem_cons.1 hb with rfl | hb
        · exact h3 hw
        · exact h2 ⟨b, hb, hw⟩

theorem foldl_get {f : σ → κ → σ} (get : σ → β) (w : κ → Prop) [DecidablePred w] (val : κ → β) (v : β)
    (l : List κ) (s : σ) (hstep : ∀ a ∈ l, ∀ s, get (f s a) = if w a then val a else get s)
    (hv : ∀ a ∈ l, w a → val a = v) : get (l.foldl f s) = if ∃ a ∈ l, w a then v else get s :=
  foldlM_get (ε := Empty) get w val v l
    (fun a ha s s' h => by cases h; exact hstep a ha s) hv (foldlM_pure ..)

variable [DecidableEq ι] (key : κ → ι) (U : κ → σ → Except ε σ) (n : ι)

theorem foldlM_keyed_of_ne (as : List κ) (h : ∀ a ∈ as, key a ≠ n) (s : σ) :
    as.foldlM (fun s a => if key a = n then U a s else .ok s) s = .ok s := by
  induction as with
  | nil => rfl
  | cons a as ih =>
    rw [foldlM_cons, if_neg (h a mem_cons_self)]
    exact ih fun b hb => h b (mem_cons_of_mem _ hb)

theorem foldlM_keyed (as : List κ) (hnd : (as.map key).Nodup) (s : σ) :
    as.foldlM (fun s a => if key a = n then U a s else .ok s) s =
      match as.find? (fun a => key a = n) with
      | some a => U a s
      | none => .ok s := by
  induction as with
  | nil => rfl
  | cons a as ih =>
    rw [map_cons, nodup_cons] at hnd
    rw [foldlM_cons, find?_cons]
    by_cases h : key a = n
    · have hne : ∀ b ∈ as, key b ≠ n := fun b hb e => hnd.1 (h ▸ e ▸ mem_map_of_mem hb)
      rw [if_pos h, decide_eq_true h, funext (foldlM_keyed_of_ne key U n as hne)]
      exact bind_pure _
    · rw [if_neg h, decide_eq_false h]
      exact ih hnd.2

end List
