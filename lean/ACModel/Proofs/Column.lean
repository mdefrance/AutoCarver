import ACModel.Model.Discretizer
/-
  The two column updates of `transform` as equations: when `transformQuantCol` / `transformQualCol`
  accept a column and what they return, and the one way each can raise an AssertionError.
-/

namespace Disc

variable {f : String} {g : GL} {t : LabelTable} {sn sd : Option String} {c r : Col}

theorem transformQuantCol_eq_ok : transformQuantCol f g t sn c = .ok r ↔
    (c.any Option.isNone && !(g.contains (nanArgOf sn))) = false ∧
    ((g.lst.filter (neNan sn)).any Val.isStr || c.any cellIsStr) = false ∧
    (g.lst.filter (neNan sn)).any (fun l => (aget? t l).isNone) = false ∧ r = c.map (quantCell g t sn) := by
  unfold transformQuantCol
  cases (c.any Option.isNone && !(g.contains (nanArgOf sn))) with
  | true => rw [if_pos rfl]; exact ⟨nofun, fun h => nomatch h.1⟩
  | false =>
    rw [if_neg Bool.false_ne_true]
    cases ((g.lst.filter (neNan sn)).any Val.isStr || c.any cellIsStr) with
    | true => rw [if_pos rfl]; exact ⟨nofun, fun h => nomatch h.2.1⟩
    | false =>
      rw [if_neg Bool.false_ne_true]
      cases (g.lst.filter (neNan sn)).any (fun l => (aget? t l).isNone) with
      | true => rw [if_pos rfl]; exact ⟨nofun, fun h => nomatch h.2.2.1⟩
      | false =>
        rw [if_neg Bool.false_ne_true]
        exact ⟨fun h => ⟨rfl, rfl, rfl, (Except.ok.inj h).symm⟩, fun h => by rw [h.2.2.2]⟩

theorem transformQuantCol_eq_assertion {m : String} : transformQuantCol f g t sn c = .error (.assertion m) ↔
    m = f ∧ (c.any Option.isNone && !(g.contains (nanArgOf sn))) = true := by
  unfold transformQuantCol
  cases (c.any Option.isNone && !(g.contains (nanArgOf sn))) with
  | true =>
    rw [if_pos rfl]
    exact ⟨fun h => ⟨(Err.assertion.inj (Except.error.inj h)).symm, rfl⟩, fun h => by rw [h.1]⟩
  | false =>
    rw [if_neg Bool.false_ne_true]
    refine ⟨fun h => ?_, fun h => nomatch h.2⟩
    split at h
    · cases h
    · split at h <;> cases h

theorem transformQualCol_eq_ok : transformQualCol f g t sn sd c = .ok r ↔
    (c.map (qualPrepared g sn sd)).any (unexpected g) = false ∧
    r = (c.map (qualPrepared g sn sd)).map (qualCell t) := by
  unfold transformQualCol
  dsimp only
  split
  · rename_i h1
    exact ⟨nofun, fun h => absurd (h1.symm.trans h.1) nofun⟩
  · rename_i h1
    exact ⟨fun h => ⟨Bool.eq_false_iff.2 h1, (Except.ok.inj h).symm⟩, fun h => by rw [h.2]⟩

theorem transformQualCol_eq_error {e : Err} : transformQualCol f g t sn sd c = .error e ↔
    e = .assertion f ∧ (c.map (qualPrepared g sn sd)).any (unexpected g) = true := by
  unfold transformQualCol
  dsimp only
  split
  · rename_i h1
    exact ⟨fun h => ⟨(Except.error.inj h).symm, h1⟩, fun h => by rw [h.1]⟩
  · rename_i h1
    exact ⟨nofun, fun h => absurd h.2 h1⟩

end Disc
