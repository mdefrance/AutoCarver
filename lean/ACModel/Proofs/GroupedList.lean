import ACModel.Proofs.Dict
import ACModel.Proofs.Sort
import ACModel.Spec.GroupedList
/-
  Every `GroupedList` operation preserves well-formedness (for C13).  What each operation does is
  stated once, as the case distinction of the Python method with the resulting state written in
  terms of `put`, `del`, `reorder` or the closed form of the dict constructor: `remove_cases`,
  `group_cases`, `replaceLeader_cases`, `sortBy_cases`, `sort_eq`, `append_eq_put`, `ofDict_eq`
  (`update_cons` is in Proofs/Refine.lean).  Well-formedness, the abstraction (Proofs/Refine.lean)
  and the values (Props/C13.lean) are proved of those.
-/

namespace GL
open Dict

/-- Order-free form of `WF`, convenient for preservation proofs. -/
def WF' (g : GL) : Prop :=
  g.lst.Nodup ∧ g.content.keys.Nodup ∧ (∀ k, k ∈ g.lst ↔ k ∈ g.content.keys) ∧
  Dict.Disjoint g.content ∧ (∀ kv ∈ g.content, kv.1 ∈ kv.2)

theorem wf_iff (g : GL) : g.WF ↔ g.WF' := by
  constructor
  · rintro ⟨h1, h2, h3, h4, h5, h6⟩
    exact ⟨h1, h2, fun k => ⟨h3 k, h4 k⟩, (nodup_allValues_iff h2).1 h5, h6⟩
  · rintro ⟨h1, h2, h3, h5, h6⟩
    exact ⟨h1, h2, fun k hk => (h3 k).1 hk, fun k hk => (h3 k).2 hk,
      (nodup_allValues_iff h2).2 h5, h6⟩

theorem WF.wf' {g : GL} (h : g.WF) : g.WF' := (wf_iff g).1 h
theorem WF'.wf {g : GL} (h : g.WF') : g.WF := (wf_iff g).2 h

theorem WF'.nodup_lst {g : GL} (h : g.WF') : g.lst.Nodup := h.1
theorem WF'.nodup_keys {g : GL} (h : g.WF') : (keys g.content).Nodup := h.2.1
theorem WF'.mem_iff {g : GL} (h : g.WF') (k : Val) : k ∈ g.lst ↔ k ∈ keys g.content := h.2.2.1 k
theorem WF'.part {g : GL} (h : g.WF') : Part g.content := h.2.2.2
theorem WF'.mem_keys {g : GL} (h : g.WF') {k : Val} (hk : k ∈ g.lst) : k ∈ keys g.content :=
  (h.mem_iff k).1 hk

theorem get_of_get? {g : GL} {k : Val} {vs : List Val} (h : get? g.content k = some vs) :
    g.get k = vs := by rw [get, h]; rfl

theorem get_of_mem {g : GL} (hn : (keys g.content).Nodup) {k : Val} {vs : List Val}
    (h : (k, vs) ∈ g.content) : g.get k = vs := get_of_get? ((get?_eq_some hn).2 h)

theorem get_of_not_mem {g : GL} {k : Val} (h : k ∉ keys g.content) : g.get k = [] := by
  rw [get, get?_eq_none.2 h]; rfl

theorem get?_of_mem_keys {g : GL} {k : Val} (h : k ∈ keys g.content) :
    get? g.content k = some (g.get k) := by
  obtain ⟨vs, hvs⟩ := Option.ne_none_iff_exists'.1 (mt get?_eq_none.1 (not_not_intro h))
  rw [get_of_get? hvs, hvs]

theorem mem_get {g : GL} {k : Val} (h : k ∈ keys g.content) : (k, g.get k) ∈ g.content :=
  mem_of_get? (get?_of_mem_keys h)

theorem mem_keys_of_mem_get {g : GL} {k v : Val} (h : v ∈ g.get k) : k ∈ keys g.content :=
  Decidable.of_not_not fun hk => by rw [get_of_not_mem hk] at h; cases h

theorem mem_values_of_mem_get {g : GL} {k v : Val} (h : v ∈ g.get k) : v ∈ g.values :=
  mem_allValues.2 ⟨_, mem_get (mem_keys_of_mem_get h), h⟩

theorem exists_get_of_mem_values {g : GL} (hn : (keys g.content).Nodup) {v : Val} (h : v ∈ g.values) :
    ∃ k, v ∈ g.get k :=
  have ⟨kv, hkv, hv⟩ := mem_allValues.1 h
  ⟨kv.1, (get_of_mem hn hkv).symm ▸ hv⟩

theorem WF'.mem_get {g : GL} (h : g.WF') {k : Val} (hk : k ∈ g.lst) : (k, g.get k) ∈ g.content :=
  GL.mem_get (h.mem_keys hk)

theorem WF'.mem_get_self {g : GL} (h : g.WF') {k : Val} (hk : k ∈ g.lst) : k ∈ g.get k :=
  h.part.2 _ (h.mem_get hk)

theorem WF'.nodup_get {g : GL} (h : g.WF') (k : Val) : (g.get k).Nodup := by
  by_cases hk : k ∈ keys g.content
  · exact h.part.1.2 _ (GL.mem_get hk)
  · rw [get_of_not_mem hk]; exact List.nodup_nil

theorem WF'.eq_of_mem_get {g : GL} (h : g.WF') {k k' v : Val} (hv : v ∈ g.get k) (hv' : v ∈ g.get k') :
    k = k' :=
  Decidable.of_not_not fun hne =>
    h.part.1.1 _ (GL.mem_get (mem_keys_of_mem_get hv)) _ (GL.mem_get (mem_keys_of_mem_get hv')) hne v hv hv'

theorem WF'.nodup_groups {g : GL} (h : g.WF') : (g.lst.map g.get).flatten.Nodup :=
  List.pairwise_flatten.2 ⟨List.forall_mem_map.2 fun k _ => h.nodup_get k,
    List.pairwise_map.2 (h.nodup_lst.imp fun hab _ hx _ hy e => hab (h.eq_of_mem_get hx (e ▸ hy)))⟩

/-- `self[k] = vs` on the list and the dict at once: in place when `k` is a leader, appended
    otherwise -/
def put (g : GL) (k : Val) (vs : List Val) : GL :=
  ⟨if k ∈ g.lst then g.lst else g.lst ++ [k], g.content.set k vs⟩

def del (g : GL) (k : Val) : GL := ⟨g.lst.erase k, g.content.erase k⟩

theorem WF'.del {g : GL} (h : g.WF') (k : Val) : (g.del k).WF' :=
  ⟨h.nodup_lst.erase k, nodup_keys_erase h.nodup_keys,
    fun x => by
      show x ∈ g.lst.erase k ↔ x ∈ keys (g.content.erase k)
      rw [keys_erase, h.nodup_lst.mem_erase_iff, h.nodup_keys.mem_erase_iff, h.mem_iff],
    h.part.erase k⟩

theorem mem_lst_put {g : GL} {k x : Val} {vs : List Val} :
    x ∈ (g.put k vs).lst ↔ x ∈ g.lst ∨ x = k := by
  unfold put
  dsimp only
  split
  · exact ⟨Or.inl, fun h => h.elim id (· ▸ ‹_›)⟩
  · rw [List.mem_append, List.mem_singleton]

theorem nodup_lst_put {g : GL} (hn : g.lst.Nodup) (k : Val) (vs : List Val) :
    (g.put k vs).lst.Nodup := by
  unfold put
  split
  · exact hn
  · exact hn.concat ‹_›

theorem WF'.put {g : GL} (h : g.WF') {k : Val} {vs : List Val} (hvs : vs.Nodup) (hk : k ∈ vs)
    (hd : ∀ x ∈ g.content, x.1 ≠ k → ∀ v ∈ x.2, v ∉ vs) : (g.put k vs).WF' :=
  ⟨nodup_lst_put h.nodup_lst k vs, nodup_keys_set h.nodup_keys,
    fun x => by rw [mem_lst_put, h.mem_iff]; exact mem_keys_set.symm,
    Part.set h.nodup_keys h.part hvs hk hd⟩

theorem get_put (g : GL) (k x : Val) (vs : List Val) :
    (g.put k vs).get x = if k = x then vs else g.get x := by
  rw [get, put, get?_set]; split <;> rfl

theorem get_del_of_ne (g : GL) {k x : Val} (h : x ≠ k) : (g.del k).get x = g.get x := by
  rw [get, del, get?_erase_of_ne _ h]; rfl

theorem WF'.perm {l l' : List Val} {c : Dict} (h : WF' ⟨l, c⟩) (hp : l'.Perm l) : WF' ⟨l', c⟩ :=
  ⟨hp.nodup_iff.2 h.nodup_lst, h.nodup_keys, fun k => hp.mem_iff.trans (h.mem_iff k), h.part⟩

theorem remove_cases (g : GL) (v : Val) :
    g.remove v = (g, some .valueError) ∧ v ∉ g.lst ∨
    g.remove v = (⟨g.lst.erase v, g.content⟩, some .keyError) ∧ v ∈ g.lst ∧ v ∉ keys g.content ∨
    g.remove v = (g.del v, none) ∧ v ∈ g.lst ∧ v ∈ keys g.content := by
  unfold remove
  by_cases hv : v ∈ g.lst
  · by_cases hc : v ∈ keys g.content
    · exact .inr (.inr ⟨by rw [if_pos hv]; exact if_pos (contains_iff.2 hc), hv, hc⟩)
    · exact .inr (.inl ⟨by rw [if_pos hv]; exact if_neg (mt contains_iff.1 hc), hv, hc⟩)
  · exact .inl ⟨if_neg hv, hv⟩

/-- (on `⟨l, c⟩`: that is how `group_cases` meets it) -/
theorem remove_of_mem {l : List Val} {c : Dict} {v : Val} (hv : v ∈ l) (hc : v ∈ keys c) :
    remove ⟨l, c⟩ v = (del ⟨l, c⟩ v, none) := by
  rcases remove_cases ⟨l, c⟩ v with ⟨_, h⟩ | ⟨_, _, h⟩ | ⟨e, _⟩
  · exact absurd hv h
  · exact absurd hc h
  · exact e

theorem remove_WF' {g : GL} (h : g.WF') (v : Val) : (g.remove v).1.WF' := by
  rcases remove_cases g v with ⟨e, _⟩ | ⟨_, hv, hc⟩ | ⟨e, _⟩
  · rw [e]; exact h
  · exact absurd (h.mem_keys hv) hc
  · rw [e]; exact h.del v

theorem mem_of_pyIndex {l : List Val} {i : Int} {v : Val} (h : pyIndex l i = some v) : v ∈ l := by
  unfold pyIndex at h
  split at h
  · exact List.mem_of_getElem? h
  · split at h
    · exact List.mem_of_getElem? h
    · cases h

theorem pop_WF' {g : GL} (h : g.WF') (i : Int) : (g.pop i).1.WF' := by
  unfold pop
  split
  · exact remove_WF' h _
  · exact h

/-- Only `lst ⊆ keys content` is needed for the last case: both lookups succeed, and so does the
    `remove`. -/
theorem group_cases {g : GL} (hsub : ∀ x ∈ g.lst, x ∈ keys g.content) (d k : Val) :
    g.group d k = (g, none) ∧ d = k ∨
    (∃ m, g.group d k = (g, some (.assertion m))) ∧ d ≠ k ∧ (d ∉ g.lst ∨ k ∉ g.lst) ∨
    g.group d k = ((g.del d).put k (g.get d ++ g.get k), none) ∧ d ≠ k ∧ d ∈ g.lst ∧ k ∈ g.lst := by
  unfold group
  by_cases hdk : d = k
  · exact .inl ⟨if_pos hdk, hdk⟩
  rw [if_neg hdk]
  by_cases hd : d ∈ g.lst
  case neg => exact .inr (.inl ⟨⟨_, if_pos hd⟩, hdk, .inl hd⟩)
  rw [if_neg (not_not_intro hd)]
  by_cases hk : k ∈ g.lst
  case neg => exact .inr (.inl ⟨⟨_, if_pos hk⟩, hdk, .inr hk⟩)
  rw [if_neg (not_not_intro hk)]
  refine .inr (.inr ⟨?_, hdk, hd, hk⟩)
  rw [get?_of_mem_keys (hsub d hd), get?_of_mem_keys (hsub k hk)]
  show remove ⟨g.lst, (g.content.set k (g.get d ++ g.get k)).set d []⟩ d = _
  rw [remove_of_mem hd (mem_keys_set.2 (.inr rfl))]
  have hk' : k ∈ g.lst.erase d := (List.mem_erase_of_ne (Ne.symm hdk)).2 hk
  -- erasing `d` undoes `set d []` and commutes with `set k`; `k` is still a leader, so `put` appends nothing
  simp only [del, put, erase_set_same, erase_set_comm _ hdk, hk', if_true]

theorem group_of_mem {g : GL} (hsub : ∀ x ∈ g.lst, x ∈ keys g.content) {d k : Val} (hdk : d ≠ k)
    (hd : d ∈ g.lst) (hk : k ∈ g.lst) :
    g.group d k = ((g.del d).put k (g.get d ++ g.get k), none) := by
  rcases group_cases hsub d k with ⟨_, e⟩ | ⟨_, _, hm⟩ | ⟨e, _⟩
  · exact absurd e hdk
  · exact hm.elim (absurd hd) (absurd hk)
  · exact e

theorem group_WF' {g : GL} (h : g.WF') (d k : Val) : (g.group d k).1.WF' := by
  rcases group_cases (fun _ => h.mem_keys) d k with ⟨e, _⟩ | ⟨⟨_, e⟩, _⟩ | ⟨e, hdk, hd, hk⟩ <;> rw [e]
  · exact h
  · exact h
  -- the merged group is duplicate free (`d`'s and `k`'s groups are disjoint), holds `k`, and shares no value
  -- with the entry of a third leader
  refine (h.del d).put ?_ (List.mem_append_right _ (h.mem_get_self hk)) fun x hx hxk v hv hv' => ?_
  · exact List.nodup_append.2 ⟨h.nodup_get d, h.nodup_get k,
      fun a ha b hb e => hdk (h.eq_of_mem_get ha (e ▸ hb))⟩
  · obtain ⟨hx, hxd⟩ := (mem_erase h.nodup_keys).1 hx
    have hdis := h.part.1.1 x hx
    exact (List.mem_append.1 hv').elim (hdis _ (h.mem_get hd) hxd v hv) (hdis _ (h.mem_get hk) hxk v hv)

theorem groupList_induction {P : GL → Prop} {E : Err → Prop} {k : Val}
    (hstep : ∀ g d, P g → P (g.group d k).1 ∧ ∀ e, (g.group d k).2 = some e → E e) (ds : List Val) {g : GL} (h : P g) :
    P (g.groupList ds k).1 ∧ ∀ e, (g.groupList ds k).2 = some e → E e := by
  induction ds generalizing g with
  | nil => exact ⟨h, fun _ he => nomatch he⟩
  | cons d ds ih =>
    have hg := hstep g d h
    rw [groupList]
    generalize g.group d k = r at hg
    obtain ⟨g', _ | e⟩ := r
    · exact ih hg.1
    · exact hg

theorem groupList_WF' {g : GL} (h : g.WF') (ds : List Val) (k : Val) :
    (g.groupList ds k).1.WF' :=
  (groupList_induction (P := WF') (fun _ d h => ⟨group_WF' h d k, fun _ _ => trivial⟩) ds h).1

theorem append_eq_put {g : GL} {v : Val} (h : v ∉ g.lst) : g.append v = g.put v [v] := by
  rw [append, put, if_neg h]

theorem WF'.not_mem_lst {g : GL} (h : g.WF') {v : Val} (hv : v ∉ g.values) : v ∉ g.lst :=
  fun hl => hv (mem_values_of_mem_get (h.mem_get_self hl))

theorem append_WF' {g : GL} (h : g.WF') (v : Val) (hv : v ∉ g.values) : (g.append v).WF' := by
  rw [append_eq_put (h.not_mem_lst hv)]
  exact h.put (List.nodup_cons.2 ⟨List.not_mem_nil, List.nodup_nil⟩) (List.mem_singleton_self v)
    fun x hx _ w hw hw' => hv (List.mem_singleton.1 hw' ▸ mem_allValues.2 ⟨x, hx, hw⟩)

theorem update_WF' {g : GL} (h : g.WF') (d : Dict) (hv : ValidUpdate g d) : (g.update d).WF' := by
  obtain ⟨hdk, hdv, hdself, hfresh⟩ := hv
  refine ⟨?_, nodup_keys_update d h.nodup_keys, fun k => ?_,
    Part.update h.nodup_keys hdk h.part ⟨(nodup_allValues_iff hdk).1 hdv, hdself⟩ hfresh⟩
  · exact List.nodup_append.2 ⟨h.nodup_lst, hdk.filter _,
      fun a ha b hb e => of_decide_eq_true (List.mem_filter.1 hb).2 (e ▸ ha)⟩
  · show k ∈ g.lst ++ _ ↔ k ∈ keys (g.content.update d)
    rw [List.mem_append, List.mem_filter, decide_eq_true_eq, mem_keys_update, h.mem_iff k]
    exact ⟨Or.imp_right And.left, fun hk => (Classical.em _).imp_right fun hn => ⟨hk.resolve_left hn, hn⟩⟩

theorem perm_listReplaceFirst {l : List Val} {a : Val} (b : Val) (ha : a ∈ l) :
    (listReplaceFirst l a b).Perm (b :: l.erase a) := by
  induction l with
  | nil => cases ha
  | cons x t ih =>
    rw [listReplaceFirst]
    by_cases e : x = a
    · rw [if_pos e, e, List.erase_cons_head]
    · rw [if_neg e, List.erase_cons_tail (by simpa using e)]
      exact ((ih ((List.mem_cons.1 ha).resolve_left (Ne.symm e))).cons x).trans (.swap b x _)

theorem WF'.not_mem_lst_of_mem_get {g : GL} (h : g.WF') {l m : Val} (hlm : l ≠ m) (hm : m ∈ g.get l) :
    m ∉ g.lst := fun hx =>
  hlm (h.eq_of_mem_get hm (h.mem_get_self hx))

/-- The state is the same whether or not the closing `sort_by` of `replace_group_leader` raises. -/
theorem replaceLeader_cases (g : GL) (l m : Val) :
    (g.replaceLeader l m).1 = g ∧ ¬ (m ∈ g.get l ∧ l ∈ g.lst) ∨
    (g.replaceLeader l m).1 = ⟨listReplaceFirst g.lst l m, (g.content.set m (g.get l)).erase l⟩ ∧
      m ∈ g.get l ∧ l ∈ g.lst := by
  unfold replaceLeader
  cases hg : get? g.content l with
  | none => exact .inl ⟨rfl, fun h => by rw [get, hg] at h; exact nomatch h.1⟩
  | some ms =>
    rw [get_of_get? hg]
    dsimp only
    by_cases hm : m ∈ ms
    · rw [if_neg (not_not_intro hm)]
      by_cases hl : l ∈ g.lst
      · rw [if_neg (not_not_intro hl)]
        refine .inr ⟨?_, hm, hl⟩
        split <;> rfl
      · rw [if_pos hl]; exact .inl ⟨rfl, fun h => hl h.2⟩
    · rw [if_pos hm]; exact .inl ⟨rfl, fun h => hm h.1⟩

theorem replaceLeader_WF' {g : GL} (h : g.WF') (l m : Val) (hlm : l ≠ m) :
    (g.replaceLeader l m).1.WF' := by
  rcases replaceLeader_cases g l m with ⟨e, _⟩ | ⟨e, hm, hl⟩ <;> rw [e]
  · exact h
  have hml := h.not_mem_lst_of_mem_get hlm hm
  -- `m` takes over the group of `l`: but for the place of `m` in the list, the new state is this one
  have hw : ((g.del l).put m (g.get l)).WF' :=
    (h.del l).put (h.nodup_get l) hm fun x hx _ v hv hv' =>
      have ⟨hx, hxl⟩ := (mem_erase h.nodup_keys).1 hx
      h.part.1.1 x hx _ (h.mem_get hl) hxl v hv hv'
  rw [put, del, if_neg (fun hx => hml (List.mem_of_mem_erase hx)), ← erase_set_comm _ hlm] at hw
  exact hw.perm ((perm_listReplaceFirst m hl).trans (List.perm_append_singleton m _).symm)

/-- What the dict constructor makes of an entry: dropped when its key lies in another group, else
    kept, with the key added to the group if it was missing. -/
def ofDictEntry (d : Dict) (kv : Val × List Val) : Option (Val × List Val) :=
  if kv.1 ∈ (d.filter (fun p => p.1 ≠ kv.1)).flatMap (·.2) then none
  else if kv.1 ∈ kv.2 then some kv else some (kv.1, kv.2 ++ [kv.1])

theorem ofDictEntry_cases (d : Dict) (kv : Val × List Val) :
    kv.1 ∈ (d.filter (fun p => p.1 ≠ kv.1)).flatMap (·.2) ∧ ofDictEntry d kv = none ∨
    kv.1 ∉ (d.filter (fun p => p.1 ≠ kv.1)).flatMap (·.2) ∧
      (kv.1 ∈ kv.2 ∧ ofDictEntry d kv = some kv ∨
       kv.1 ∉ kv.2 ∧ ofDictEntry d kv = some (kv.1, kv.2 ++ [kv.1])) := by
  unfold ofDictEntry
  by_cases h1 : kv.1 ∈ (d.filter (fun p => p.1 ≠ kv.1)).flatMap (·.2)
  · exact .inl ⟨h1, if_pos h1⟩
  · rw [if_neg h1]
    by_cases h2 : kv.1 ∈ kv.2
    · exact .inr ⟨h1, .inl ⟨h2, if_pos h2⟩⟩
    · exact .inr ⟨h1, .inr ⟨h2, if_neg h2⟩⟩

theorem fst_of_ofDictEntry {d : Dict} {kv x : Val × List Val} (h : ofDictEntry d kv = some x) :
    x.1 = kv.1 := by
  rcases ofDictEntry_cases d kv with ⟨_, e⟩ | ⟨_, ⟨_, e⟩ | ⟨_, e⟩⟩ <;> rw [e] at h <;> cases h <;> rfl

theorem keys_filterMap_ofDictEntry_sublist (d l : Dict) :
    (keys (l.filterMap (ofDictEntry d))).Sublist (keys l) := by
  induction l with
  | nil => exact .slnil
  | cons kv t ih =>
    rw [List.filterMap_cons]
    split
    · exact ih.cons _
    · rename_i x e; rw [keys_cons, fst_of_ofDictEntry e]; exact ih.cons_cons _

theorem ofDictStep_eq (d a rest : Dict) {kv : Val × List Val} (hk : kv.1 ∉ keys a) :
    ofDictStep d (keys (a ++ kv :: rest), a ++ kv :: rest) kv =
      (keys (a ++ [kv].filterMap (ofDictEntry d) ++ rest), a ++ [kv].filterMap (ofDictEntry d) ++ rest) := by
  rw [List.filterMap_cons, List.filterMap_nil, ofDictStep]
  dsimp only
  rcases ofDictEntry_cases d kv with ⟨h1, e⟩ | ⟨h1, ⟨h2, e⟩ | ⟨h2, e⟩⟩ <;> rw [e]
  · rw [if_pos h1, ← keys_erase, erase_append_of_not_mem hk, erase_cons, if_pos rfl, List.append_nil]
  · rw [if_neg h1, if_pos h2, List.append_assoc]; rfl
  · rw [if_neg h1, if_neg h2, set_append_of_not_mem hk, set_cons, if_pos rfl, List.append_assoc,
      keys_append, keys_append]
    rfl

/-- the key loop of the dict constructor, started anywhere: the entries already visited have been
    replaced by what `ofDictEntry` makes of them -/
theorem foldl_ofDictStep (d rest pre : Dict) (hn : (keys (pre ++ rest)).Nodup) :
    rest.foldl (ofDictStep d)
        (keys (pre.filterMap (ofDictEntry d) ++ rest), pre.filterMap (ofDictEntry d) ++ rest) =
      (keys ((pre ++ rest).filterMap (ofDictEntry d)), (pre ++ rest).filterMap (ofDictEntry d)) := by
  induction rest generalizing pre with
  | nil => rw [List.append_nil, List.append_nil]; rfl
  | cons kv rest ih =>
    have hk : kv.1 ∉ keys (pre.filterMap (ofDictEntry d)) := fun h => by
      rw [keys_append, List.nodup_append] at hn
      exact hn.2.2 _ ((keys_filterMap_ofDictEntry_sublist d pre).subset h) _ List.mem_cons_self rfl
    have ih := ih (pre ++ [kv]) (by rwa [List.append_assoc])
    rw [List.append_assoc, List.singleton_append, List.filterMap_append] at ih
    rw [List.foldl_cons, ofDictStep_eq d _ rest hk, ih]

/-- **What `GroupedList(a_dict)` computes**, for a dict whose groups share no value. -/
theorem ofDict_eq {d : Dict} (hn : (keys d).Nodup) (hv : (allValues d).Nodup) :
    ofDict d = .ok ⟨keys (d.filterMap (ofDictEntry d)), d.filterMap (ofDictEntry d)⟩ := by
  rw [ofDict, if_neg (not_not_intro hv)]
  exact congrArg (fun r : List Val × Dict => Except.ok (⟨r.1, r.2⟩ : GL)) (foldl_ofDictStep d d [] hn)

theorem ofDictEntry_spec {d : Dict} (hn : (keys d).Nodup) {kv x : Val × List Val} (hkv : kv ∈ d)
    (h : ofDictEntry d kv = some x) :
    x = kv ∧ kv.1 ∈ kv.2 ∨ x = (kv.1, kv.2 ++ [kv.1]) ∧ kv.1 ∉ allValues d := by
  rcases ofDictEntry_cases d kv with ⟨_, e⟩ | ⟨hoth, ⟨hown, e⟩ | ⟨hown, e⟩⟩ <;> rw [e] at h <;> cases h
  · exact .inl ⟨rfl, hown⟩
  · refine .inr ⟨rfl, fun hall => ?_⟩
    obtain ⟨y, hy, hvy⟩ := mem_allValues.1 hall
    by_cases e : y.1 = kv.1
    · exact hown (unique_of_mem hn (mem_of_fst_eq hy e) hkv ▸ hvy)
    · exact hoth (List.mem_flatMap.2 ⟨y, List.mem_filter.2 ⟨hy, by simpa using e⟩, hvy⟩)

theorem ofDict_WF' {d : Dict} {g : GL} (hn : (keys d).Nodup) (h : ofDict d = .ok g) : g.WF' := by
  by_cases hv : (allValues d).Nodup
  case neg => rw [ofDict, if_pos hv] at h; cases h
  obtain rfl := Except.ok.inj ((ofDict_eq hn hv).symm.trans h)
  obtain ⟨hd, hnd⟩ := (nodup_allValues_iff hn).1 hv
  have hkn := (keys_filterMap_ofDictEntry_sublist d d).nodup hn
  -- every entry of the result comes from an entry of `d` with the same key and, but for that
  -- key, the same values
  have key : ∀ x ∈ d.filterMap (ofDictEntry d), ∃ kv ∈ d, x.1 = kv.1 ∧ x.1 ∈ x.2 ∧ x.2.Nodup ∧
      ∀ v ∈ x.2, v ∈ kv.2 ∨ v = kv.1 ∧ kv.1 ∉ allValues d := by
    intro x hx
    obtain ⟨kv, hkv, e⟩ := List.mem_filterMap.1 hx
    refine ⟨kv, hkv, ?_⟩
    rcases ofDictEntry_spec hn hkv e with ⟨rfl, hs⟩ | ⟨rfl, hs⟩
    · exact ⟨rfl, hs, hnd _ hkv, fun v hv => .inl hv⟩
    · have hs' : kv.1 ∉ kv.2 := fun hm => hs (mem_allValues.2 ⟨kv, hkv, hm⟩)
      exact ⟨rfl, List.mem_append_right _ (List.mem_singleton_self _), (hnd _ hkv).concat hs',
        fun v hv => (List.mem_append.1 hv).imp_right fun hv => ⟨List.mem_singleton.1 hv, hs⟩⟩
  refine ⟨hkn, hkn, fun _ => Iff.rfl, ⟨fun a ha b hb hab v hva hvb => ?_, fun x hx => ?_⟩, fun x hx => ?_⟩
  · obtain ⟨ka, hka, ea, -, -, ha⟩ := key a ha
    obtain ⟨kb, hkb, eb, -, -, hb⟩ := key b hb
    rcases ha v hva with h1 | ⟨h1, h1'⟩ <;> rcases hb v hvb with h2 | ⟨h2, h2'⟩
    · exact hd ka hka kb hkb (ea ▸ eb ▸ hab) v h1 h2
    · exact h2' (h2 ▸ mem_allValues.2 ⟨ka, hka, h1⟩)
    · exact h1' (h1 ▸ mem_allValues.2 ⟨kb, hkb, h2⟩)
    · exact hab (ea.trans (h1.symm.trans (h2.trans eb.symm)))
  · obtain ⟨_, -, -, -, hnodup, -⟩ := key x hx; exact hnodup
  · obtain ⟨_, -, -, hself, -⟩ := key x hx; exact hself

theorem ofDict_id {d : Dict} (hn : (keys d).Nodup) (hd : Dict.Disjoint d)
    (hs : ∀ kv ∈ d, kv.1 ∈ kv.2) : ofDict d = .ok ⟨keys d, d⟩ := by
  have : d.filterMap (ofDictEntry d) = d := by
    refine List.filterMap_eq_self fun kv hkv => ?_
    rw [ofDictEntry, if_neg, if_pos (hs kv hkv)]
    intro hmem
    obtain ⟨x, hx, hv⟩ := List.mem_flatMap.1 hmem
    obtain ⟨hx, hne⟩ := List.mem_filter.1 hx
    exact hd.1 x hx kv hkv (by simpa using hne) kv.1 hv (hs kv hkv)
  rw [ofDict_eq hn ((nodup_allValues_iff hn).2 hd), this]

theorem nodup_keys_ofKeys (ks : List Val) (f : Val → List Val) : (keys (ofKeys ks f)).Nodup := by
  have := nodup_keys_update (c := []) (ks.map fun k => (k, f k)) List.nodup_nil
  rwa [Dict.update, List.foldl_map] at this

theorem ofKeys_eq_map {ks : List Val} (f : Val → List Val) (hn : ks.Nodup) :
    ofKeys ks f = ks.map (fun k => (k, f k)) := by
  unfold ofKeys
  simp only [set_eq_aset]
  exact foldl_aset_of_not_mem id f ks [] (by rwa [List.map_id]) fun _ _ => List.not_mem_nil

theorem values_ofList {l : List Val} (hn : l.Nodup) : (ofList l).values = l := by
  simp [values, ofList, ofKeys_eq_map _ hn, Dict.allValues, List.flatMap_map]

theorem ofList_WF' {l : List Val} (hn : l.Nodup) : (ofList l).WF' := by
  unfold ofList
  rw [ofKeys_eq_map _ hn]
  have hk := keys_map_self (fun k => [k]) l
  have hm : ∀ x ∈ l.map (fun k => (k, [k])), x.2 = [x.1] := fun x hx => by
    obtain ⟨_, _, rfl⟩ := List.mem_map.1 hx; rfl
  refine ⟨hn, hk.symm ▸ hn, fun k => by rw [hk], ⟨fun a ha b hb hab v hva hvb => ?_, fun x hx => ?_⟩,
    fun x hx => ?_⟩
  · rw [hm a ha, List.mem_singleton] at hva
    rw [hm b hb, List.mem_singleton] at hvb
    exact hab (hva.symm.trans hvb)
  · rw [hm x hx]; exact List.nodup_cons.2 ⟨List.not_mem_nil, List.nodup_nil⟩
  · rw [hm x hx]; exact List.mem_singleton_self _

theorem copy_WF' {g : GL} (h : g.WF') : g.copy.WF' := h

theorem insertsBy (le : Val → Val → Bool) : InsSort.InsertsBy (le · · = true) (insertBy le) :=
  ⟨fun _ => rfl, fun _ _ _ => rfl⟩

theorem isort_eq_foldr (le : Val → Val → Bool) (l : List Val) : isort le l = l.foldr (insertBy le) [] := by
  induction l with
  | nil => rfl
  | cons x t ih => exact congrArg _ ih

theorem perm_isort (le : Val → Val → Bool) (l : List Val) : (isort le l).Perm l :=
  isort_eq_foldr le l ▸ (insertsBy le).foldr_perm l

theorem nodup_isort {le : Val → Val → Bool} {l : List Val} (hn : l.Nodup) : (isort le l).Nodup :=
  (perm_isort le l).nodup_iff.2 hn

theorem perm_sortedKeys (l : List Val) :
    (isort Val.strLe (l.filter Val.isStr) ++ isort Val.numLe (l.filter (fun v => !v.isStr))).Perm l :=
  ((perm_isort _ _).append (perm_isort _ _)).trans (List.filter_append_perm _ l)

/-- the state read through a list `o` of its leaders: what `sort`, `sort_by` and the JSON loader
    (`PJson.canon`, with `o = g.lst`) build -/
def reorder (g : GL) (o : List Val) : GL := ⟨o, o.map fun k => (k, g.get k)⟩

theorem mem_content_reorder {g : GL} (h : g.WF') {o : List Val} (hsub : ∀ k ∈ o, k ∈ g.lst)
    {kv : Val × List Val} : kv ∈ (g.reorder o).content ↔ kv ∈ g.content ∧ kv.1 ∈ o := by
  refine ⟨fun hkv => ?_, fun ⟨hkv, hk⟩ => List.mem_map.2 ⟨kv.1, hk, by rw [get_of_mem h.nodup_keys hkv]⟩⟩
  obtain ⟨k, hk, rfl⟩ := List.mem_map.1 hkv
  exact ⟨h.mem_get (hsub k hk), hk⟩

theorem WF'.reorder {g : GL} (h : g.WF') {o : List Val} (hn : o.Nodup) (hsub : ∀ k ∈ o, k ∈ g.lst) :
    (g.reorder o).WF' :=
  have hk : keys (g.reorder o).content = o := keys_map_self g.get o
  ⟨hn, hk.symm ▸ hn, fun _ => by rw [hk]; rfl, h.part.mono fun _ hx => ((mem_content_reorder h hsub).1 hx).1⟩

theorem ofDict_reorder {g : GL} (h : g.WF') {o : List Val} (hn : o.Nodup)
    (hsub : ∀ k ∈ o, k ∈ g.lst) : ofDict (ofKeys o g.get) = .ok (g.reorder o) := by
  have hw := h.reorder hn hsub
  rw [ofKeys_eq_map _ hn, ofDict_id (d := o.map _) hw.nodup_keys hw.part.1 hw.part.2, keys_map_self]
  rfl

theorem sort_WF' {g g' : GL} (h : g.sort = .ok g') : g'.WF' :=
  ofDict_WF' (nodup_keys_ofKeys _ _) h

theorem sortBy_WF' {g g' : GL} {o : List Val} (h : g.sortBy o = .ok g') : g'.WF' := by
  unfold sortBy at h
  split at h
  · cases h
  · split at h
    · cases h
    · exact ofDict_WF' (nodup_keys_ofKeys _ _) h

theorem sort_eq {g : GL} (h : g.WF') :
    g.sort = .ok (g.reorder (isort Val.strLe (g.lst.filter Val.isStr) ++
      isort Val.numLe (g.lst.filter (fun v => !v.isStr)))) :=
  have hp := perm_sortedKeys g.lst
  ofDict_reorder h (hp.nodup_iff.2 h.nodup_lst) fun _ => hp.mem_iff.1

theorem sortBy_cases {g : GL} (h : g.WF') {o : List Val} (hn : o.Nodup) :
    (∃ e, g.sortBy o = .error e) ∧ ¬ ((∀ k ∈ o, k ∈ g.lst) ∧ ∀ k ∈ g.lst, k ∈ o) ∨
    g.sortBy o = .ok (g.reorder o) ∧ (∀ k ∈ o, k ∈ g.lst) ∧ ∀ k ∈ g.lst, k ∈ o := by
  unfold sortBy
  by_cases h1 : o.all (· ∈ g.lst) = true
  case neg => exact .inl ⟨⟨_, if_pos h1⟩, fun hh => h1 (List.all_mem_iff.2 hh.1)⟩
  rw [if_neg (not_not_intro h1)]
  by_cases h2 : g.lst.all (· ∈ o) = true
  case neg => exact .inl ⟨⟨_, if_pos h2⟩, fun hh => h2 (List.all_mem_iff.2 hh.2)⟩
  rw [if_neg (not_not_intro h2)]
  exact .inr ⟨ofDict_reorder h hn (List.all_mem_iff.1 h1), List.all_mem_iff.1 h1, List.all_mem_iff.1 h2⟩

theorem sortBy_eq {g g' : GL} (h : g.WF') {o : List Val} (hn : o.Nodup) (hs : g.sortBy o = .ok g') :
    g' = g.reorder o ∧ (∀ k ∈ g.lst, k ∈ o) := by
  rcases sortBy_cases h hn with ⟨⟨_, e⟩, _⟩ | ⟨e, _, h2⟩ <;> rw [e] at hs
  · cases hs
  · exact ⟨(Except.ok.inj hs).symm, h2⟩

theorem mem_values_reorder {g : GL} (h : g.WF') {o : List Val} (hsub : ∀ k ∈ o, k ∈ g.lst)
    (hall : ∀ k ∈ g.lst, k ∈ o) {v : Val} (hv : v ∈ g.values) : v ∈ (g.reorder o).values :=
  have ⟨kv, hkv, hvk⟩ := mem_allValues.1 hv
  mem_allValues.2 ⟨kv, (mem_content_reorder h hsub).2 ⟨hkv, hall _ ((h.mem_iff _).2 (mem_keys_of_mem hkv))⟩, hvk⟩

end GL
