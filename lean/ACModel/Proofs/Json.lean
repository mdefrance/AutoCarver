import ACModel.Spec.Json
import ACModel.Proofs.GroupedList
/-
  Helper lemmas for C06: the loader's loop when every order value is found (`foldlM_found`), the
  converted key `ckey` (injective; of a dumped leader's text key it is the key the loader looks up:
  `ckey_tk`), and the loader's normal form `canon` (`GL.reorder` along the list) with the relation
  `Same` of grouped lists that every reader treats alike.
-/

namespace PJson

theorem foldlM_found (content : List (CKey × List Val)) (lk : Val → CKey) (f : Val → List Val) (l : List Val)
    (hf : ∀ k ∈ l, aget? content (lk k) = some (f k)) :
    l.foldlM (loadStep content lk) [] = .ok (Dict.ofKeys l f) :=
  List.foldlM_except_ok (g := fun acc k => Dict.set acc k (f k)) [] fun k hk acc => by
    rw [loadStep, hf k hk, Dict.set_eq_aset]

theorem ckey_inj {a b : String} (h : ckey a = ckey b) : a = b := by
  unfold ckey at h
  by_cases ha : a = "numpy.inf" <;> by_cases hb : b = "numpy.inf" <;> simp [ha, hb] at h
  · rw [ha, hb]
  · exact h

theorem ckey_tk {keyStr : Rat → String} {v : Val} (hs : v ≠ sentinel)
    (hq : ∀ q, v = .num q → keyStr q ≠ "numpy.inf") : ckey (tk keyStr v) = lookupKey keyStr v := by
  cases v with
  | str s =>
    have : s ≠ "numpy.inf" := fun e => hs (by rw [e]; rfl)
    simp [tk, base, textKey, ckey, lookupKey, this]
  | num q => simp [tk, base, textKey, ckey, lookupKey, hq q rfl]
  | inf => simp [tk, base, textKey, ckey, lookupKey]

/-- two grouped lists that every reader (labels, label table, transform) treats the same way -/
structure Same (g g' : GL) : Prop where
  lst : g'.lst = g.lst
  get : ∀ k, g'.get k = g.get k
  mem : ∀ v, v ∈ g'.values ↔ v ∈ g.values
  grp : ∀ a, g'.getGroup a = g.getGroup a
  cont : ∀ a, g'.contains a = g.contains a

theorem canon_WF {g : GL} (h : g.WF) : (canon g).WF :=
  (h.wf'.reorder h.wf'.nodup_lst fun _ hk => hk).wf

theorem mem_canon_content {g : GL} (h : g.WF) (kv : Val × List Val) :
    kv ∈ (canon g).content ↔ kv ∈ g.content :=
  (GL.mem_content_reorder h.wf' fun _ hk => hk).trans
    (and_iff_left_of_imp fun hkv => (h.wf'.mem_iff _).2 (Dict.mem_keys_of_mem hkv))

end PJson
