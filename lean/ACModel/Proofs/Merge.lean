import ACModel.Model.BaseDisc
/-
  The merging loop of `find_common_modalities`, seen as acting on one list of pairs (group, statistics):
  an iteration replaces two neighbours by one (`Step`), and the loop runs until its condition is false
  (`Done`).  Every fact about the result is an invariant of `Step` handed to `mergeLoop_spec`.
  Separately, the loop never looks at the labels (`mergeLoop_map`).
-/

namespace Merge
open BaseDisc

theorem exists_unzip {α β : Type} {as : List α} {bs : List β} (h : as.length = bs.length) :
    ∃ zs : List (α × β), as = zs.map (·.1) ∧ bs = zs.map (·.2) :=
  ⟨as.zip bs, (List.map_fst_zip (by omega)).symm, (List.map_snd_zip (by omega)).symm⟩

theorem map_modifyAt {α β : Type} (φ : α → β) (f : α → α) (g : β → β) (h : ∀ a, φ (f a) = g (φ a))
    (l : List α) (k : Nat) : (modifyAt f l k).map φ = modifyAt g (l.map φ) k := by
  fun_induction modifyAt f l k with
  | case1 => rfl
  | case2 => simp [modifyAt, h]
  | case3 x t n ih => simp [modifyAt, ih]

theorem map_removeAt {α β : Type} (φ : α → β) (l : List α) (d : Nat) : (removeAt l d).map φ = removeAt (l.map φ) d := by
  fun_induction removeAt l d with
  | case1 => rfl
  | case2 => rfl
  | case3 x t n ih => simp [removeAt, ih]

/-- `group(discarded, kept)` on a pair: the discarded members come first, the statistics add up -/
def absorb {α : Type} (pd pk : List α × Stat) : List α × Stat := (pd.1 ++ pk.1, pk.2.add pd.2)

/-- what an iteration does: some modality is absorbed by its next or by its previous neighbour -/
inductive Step {α : Type} : List (List α × Stat) → List (List α × Stat) → Prop
  | next (a b t) : Step (a :: b :: t) (absorb a b :: t)
  | prev (a b t) : Step (a :: b :: t) (absorb b a :: t)
  | cons (a) {t t'} : Step t t' → Step (a :: t) (a :: t')

theorem Step.length {α : Type} {zs zs' : List (List α × Stat)} (h : Step zs zs') : zs'.length + 1 = zs.length := by
  induction h with
  | next | prev => rfl
  | cons _ _ ih => simp [ih]

theorem Step.forall {α : Type} {R : List α → Stat → Prop} (hadd : ∀ g s gd sd, R g s → R gd sd → R (gd ++ g) (s.add sd))
    {zs zs' : List (List α × Stat)} (h : Step zs zs') (hz : ∀ p ∈ zs, R p.1 p.2) : ∀ p ∈ zs', R p.1 p.2 := by
  induction h <;> simp only [List.forall_mem_cons] at hz ⊢
  case next => exact ⟨hadd _ _ _ _ hz.2.1 hz.1, hz.2.2⟩
  case prev => exact ⟨hadd _ _ _ _ hz.1 hz.2.1, hz.2.2⟩
  case cons ih => exact ⟨hz.1, ih hz.2⟩

theorem step_of_adjacent {α : Type} {pd : List α × Stat} {zs : List (List α × Stat)} : ∀ {d k : Nat},
    zs[d]? = some pd → k < zs.length → (k + 1 = d ∨ k = d + 1) → Step zs (removeAt (modifyAt (absorb pd) zs k) d) := by
  induction zs with
  | nil => intro d k _ hk; cases hk
  | cons a t ih =>
    intro d k hd hk h
    cases d with
    | zero =>
      obtain rfl : k = 1 := h.resolve_left (Nat.succ_ne_zero k)
      cases t with
      | nil => exact absurd hk (Nat.lt_irrefl 1)
      | cons b t => cases hd; exact .next _ _ _
    | succ d =>
      cases k with
      | zero =>
        obtain rfl : 0 = d := h.elim Nat.succ.inj nofun
        cases t with
        | nil => cases hd
        | cons b t => cases hd; exact .prev _ _ _
      | succ k => exact .cons a (ih hd (Nat.lt_of_succ_lt_succ hk) (h.imp Nat.succ.inj Nat.succ.inj))

theorem closest_cases (idx : Nat) (stats : List Stat) (lenDf : Nat) (minFreq : Rat) :
    (idx = 0 ∧ closest idx stats lenDf minFreq = 1) ∨ (idx ≠ 0 ∧ closest idx stats lenDf minFreq + 1 = idx) ∨
      (idx + 1 ≠ stats.length ∧ closest idx stats lenDf minFreq = idx + 1) := by
  -- the branches of `closest` in order: the first position; the last; one in between, where whatever the
  -- comparison of frequencies and rates says the answer is `idx + 1` or `idx - 1`
  unfold closest
  split
  · exact Or.inl ⟨by simp_all, rfl⟩
  · rename_i h0
    have h0 : idx ≠ 0 := by simpa using h0
    have hp : idx - 1 + 1 = idx := Nat.sub_add_cancel (Nat.pos_of_ne_zero h0)
    split
    · exact Or.inr (Or.inl ⟨h0, hp⟩)
    · rename_i hl
      split
      · dsimp only
        split
        · exact Or.inr (Or.inr ⟨by simpa using hl, rfl⟩)
        · exact Or.inr (Or.inl ⟨h0, hp⟩)
      · exact Or.inr (Or.inl ⟨h0, hp⟩)

theorem closest_adjacent {idx : Nat} {stats : List Stat} (lenDf : Nat) (minFreq : Rat)
    (hidx : idx < stats.length) (hlen : 2 ≤ stats.length) :
    closest idx stats lenDf minFreq < stats.length ∧
    (closest idx stats lenDf minFreq + 1 = idx ∨ closest idx stats lenDf minFreq = idx + 1) := by
  rcases closest_cases idx stats lenDf minFreq with ⟨rfl, h⟩ | ⟨_, h⟩ | ⟨hl, h⟩
  · exact ⟨by omega, Or.inr h⟩
  · exact ⟨by omega, Or.inl h⟩
  · exact ⟨by omega, Or.inr h⟩

theorem argminAux_lt (l : List Nat) (i best bv : Nat) (hb : best < i) : argminAux l i best bv < i + l.length := by
  fun_induction argminAux l i best bv with
  | case1 => exact hb
  | case2 x t i best bv hlt ih => -- `x < bv`: position `i` is the best so far
    rw [List.length_cons, ← Nat.add_assoc, Nat.add_right_comm]; exact ih (Nat.lt_succ_self i)
  | case3 x t i best bv hge ih => -- otherwise `best` stays
    rw [List.length_cons, ← Nat.add_assoc, Nat.add_right_comm]; exact ih (Nat.lt_succ_of_lt hb)

theorem argmin_lt (l : List Nat) (h : 0 < l.length) : argmin l < l.length := by
  obtain ⟨x, t, rfl⟩ := List.exists_cons_of_length_pos h
  have := argminAux_lt t 1 0 x Nat.zero_lt_one
  rwa [Nat.add_comm] at this

/-- the loop condition is false: a single modality is left, or none is rarer than `minFreq` -/
def Done (lenDf : Nat) (minFreq : Rat) (stats : List Stat) : Prop :=
  stats.length ≤ 1 ∨ ∀ s ∈ stats, minFreq ≤ (((s.n : Nat) : Rat) / (lenDf : Nat))

instance (lenDf : Nat) (minFreq : Rat) (stats : List Stat) : Decidable (Done lenDf minFreq stats) := by
  unfold Done; infer_instance

theorem not_any_rare_iff {lenDf : Nat} {minFreq : Rat} {stats : List Stat} :
    (!(stats.any fun s => decide ((((s.n : Nat) : Rat) / (lenDf : Nat)) < minFreq))) = true ↔
      ∀ s ∈ stats, minFreq ≤ (((s.n : Nat) : Rat) / (lenDf : Nat)) := by
  simp [Rat.not_lt]

/-- `mergeStep` with its loop condition named, and its last `match` as a `bind` -/
theorem mergeStep_eq {α : Type} (groups : List (List α)) (stats : List Stat) (lenDf : Nat) (minFreq : Rat) :
    mergeStep groups stats lenDf minFreq =
      if Done lenDf minFreq stats then none else
        let d := argmin (stats.map (·.n))
        let k := closest d stats lenDf minFreq
        groups[d]?.bind fun gd => stats[d]?.map fun sd =>
          (removeAt (modifyAt (fun gk => gd ++ gk) groups k) d,
           removeAt (modifyAt (fun sk => sk.add sd) stats k) d) := by
  unfold mergeStep
  split
  · rename_i h; exact (if_pos (Or.inl h)).symm
  · rename_i h1
    split
    · rename_i h2; exact (if_pos (Or.inr (not_any_rare_iff.1 h2))).symm
    · rename_i h2
      rw [if_neg fun h => h.elim h1 fun h => h2 (not_any_rare_iff.2 h)]
      dsimp only
      cases groups[argmin (stats.map (·.n))]? <;> cases stats[argmin (stats.map (·.n))]? <;> rfl

theorem mergeStep_spec {α : Type} (zs : List (List α × Stat)) (lenDf : Nat) (minFreq : Rat) :
    (Done lenDf minFreq (zs.map (·.2)) ∧ mergeStep (zs.map (·.1)) (zs.map (·.2)) lenDf minFreq = none) ∨
    ∃ zs', Step zs zs' ∧
      mergeStep (zs.map (·.1)) (zs.map (·.2)) lenDf minFreq = some (zs'.map (·.1), zs'.map (·.2)) := by
  rw [mergeStep_eq]
  by_cases hdn : Done lenDf minFreq (zs.map (·.2))
  · exact .inl ⟨hdn, if_pos hdn⟩
  · rw [if_neg hdn]
    dsimp only
    -- `argmin` is a position of the list, and `closest` a neighbour of it
    have hlen : 2 ≤ (zs.map (·.2)).length := Nat.lt_of_not_le fun h => hdn (Or.inl h)
    have hd := argmin_lt ((zs.map (·.2)).map (·.n)) (by rw [List.length_map]; omega)
    rw [List.length_map] at hd
    have hadj := closest_adjacent lenDf minFreq hd hlen
    generalize argmin _ = d at hd hadj ⊢
    generalize closest d _ lenDf minFreq = k at hadj ⊢
    rw [List.length_map] at hd hadj
    refine .inr ⟨_, step_of_adjacent (List.getElem?_eq_getElem hd) hadj.1 hadj.2, ?_⟩
    rw [List.getElem?_map, List.getElem?_map, List.getElem?_eq_getElem hd, map_removeAt, map_removeAt,
      map_modifyAt (·.1) (absorb zs[d]) (fun gk => zs[d].1 ++ gk) (fun _ => rfl),
      map_modifyAt (·.2) (absorb zs[d]) (fun sk => sk.add zs[d].2) (fun _ => rfl)]
    rfl

/-- **The loop rule.**  An invariant of `Step` that holds of the initial modalities holds of the final ones, and
    with at least as much fuel as modalities (less one) the loop ends because its condition is false. -/
theorem mergeLoop_spec {α : Type} {lenDf : Nat} {minFreq : Rat} {Inv : List (List α × Stat) → Prop}
    (hstep : ∀ {zs zs'}, Step zs zs' → Inv zs → Inv zs') (fuel : Nat) (zs : List (List α × Stat)) (h : Inv zs) :
    ∃ zs', Inv zs' ∧ mergeLoop fuel (zs.map (·.1)) (zs.map (·.2)) lenDf minFreq = (zs'.map (·.1), zs'.map (·.2)) ∧
      (zs.length ≤ fuel + 1 → Done lenDf minFreq (zs'.map (·.2))) := by
  induction fuel generalizing zs with
  | zero => exact ⟨zs, h, rfl, fun hl => Or.inl (by simpa using hl)⟩
  | succ fuel ih =>
    rw [mergeLoop]
    rcases mergeStep_spec zs lenDf minFreq with ⟨hd, hs⟩ | ⟨zs1, hst, hs⟩ <;> rw [hs]
    · exact ⟨zs, h, rfl, fun _ => hd⟩
    · obtain ⟨zs', hi, he, hd⟩ := ih zs1 (hstep hst h)
      exact ⟨zs', hi, he, fun hl => hd (by have := hst.length; omega)⟩

theorem findCommonModalities_spec {α : Type} {lenDf : Nat} {minFreq : Rat} {Inv : List (List α × Stat) → Prop}
    (hstep : ∀ {zs zs'}, Step zs zs' → Inv zs → Inv zs') (ls : List (α × Stat))
    (h0 : Inv (ls.map fun p => ([p.1], p.2))) :
    ∃ zs, Inv zs ∧ findCommonModalities (ls.map (·.1)) (ls.map (·.2)) lenDf minFreq = zs.map (·.1) ∧
      Done lenDf minFreq (zs.map (·.2)) := by
  obtain ⟨zs, hi, he, hd⟩ := mergeLoop_spec (lenDf := lenDf) (minFreq := minFreq) hstep ls.length _ h0
  simp only [List.map_map, Function.comp_def, List.length_map] at he hd
  exact ⟨zs, hi, by simp only [findCommonModalities, List.map_map, Function.comp_def, List.length_map, he],
    hd (by omega)⟩

theorem findCommonModalities_forall {α : Type} {lenDf : Nat} {minFreq : Rat} {R : List α → Stat → Prop}
    (hadd : ∀ g s gd sd, R g s → R gd sd → R (gd ++ g) (s.add sd)) (ls : List (α × Stat)) (h0 : ∀ q ∈ ls, R [q.1] q.2) :
    ∃ zs : List (List α × Stat), (∀ p ∈ zs, R p.1 p.2) ∧
      findCommonModalities (ls.map (·.1)) (ls.map (·.2)) lenDf minFreq = zs.map (·.1) ∧
      Done lenDf minFreq (zs.map (·.2)) :=
  findCommonModalities_spec (Step.forall hadd) ls (List.forall_mem_map.2 h0)

/-- `gs` are, in order, permutations of consecutive segments of `l` covering it -/
def RunsOf {α : Type} : List (List α) → List α → Prop
  | [], l => l = []
  | g :: gs, l => ∃ r rest, l = r ++ rest ∧ g.Perm r ∧ RunsOf gs rest

theorem runsOf_singletons {α : Type} : ∀ (l : List α), RunsOf (l.map (fun x => [x])) l
  | [] => rfl
  | x :: t => ⟨[x], t, rfl, List.Perm.refl _, runsOf_singletons t⟩

theorem runsOf_flatten_perm {α : Type} (gs : List (List α)) (l : List α) (h : RunsOf gs l) : gs.flatten.Perm l := by
  induction gs generalizing l with
  | nil => cases h; exact .refl _
  | cons g gs ih =>
    obtain ⟨r, rest, rfl, hp, hr⟩ := h
    exact List.flatten_cons ▸ hp.append (ih rest hr)

theorem Step.runsOf {α : Type} {zs zs' : List (List α × Stat)} (h : Step zs zs') :
    ∀ {l : List α}, RunsOf (zs.map (·.1)) l → RunsOf (zs'.map (·.1)) l := by
  induction h with
  | next a b t =>
    rintro l ⟨r1, _, rfl, hp1, r2, l2, rfl, hp2, h3⟩
    exact ⟨r1 ++ r2, l2, (List.append_assoc ..).symm, hp1.append hp2, h3⟩
  | prev a b t =>
    rintro l ⟨r1, _, rfl, hp1, r2, l2, rfl, hp2, h3⟩
    exact ⟨r1 ++ r2, l2, (List.append_assoc ..).symm, List.perm_append_comm.trans (hp1.append hp2), h3⟩
  | cons a _ ih =>
    rintro l ⟨r, rest, rfl, hp, hr⟩
    exact ⟨r, rest, rfl, hp, ih hr⟩

theorem mergeStep_map {α β : Type} (φ : α → β) (groups : List (List α)) (stats : List Stat)
    (lenDf : Nat) (minFreq : Rat) :
    mergeStep (groups.map (List.map φ)) stats lenDf minFreq =
      (mergeStep groups stats lenDf minFreq).map (fun p => (p.1.map (List.map φ), p.2)) := by
  rw [mergeStep_eq, mergeStep_eq]
  split
  · rfl
  · dsimp only
    rw [List.getElem?_map]
    cases groups[argmin (stats.map (·.n))]? with
    | none => rfl
    | some gd =>
      cases stats[argmin (stats.map (·.n))]? with
      | none => rfl
      | some sd =>
        simp only [Option.map_some, Option.bind_some, map_removeAt,
          map_modifyAt (List.map φ) (fun gk => gd ++ gk) (fun gk => List.map φ gd ++ gk) fun a => List.map_append]

theorem mergeLoop_map {α β : Type} (φ : α → β) (fuel : Nat) (groups : List (List α)) (stats : List Stat)
    (lenDf : Nat) (minFreq : Rat) :
    mergeLoop fuel (groups.map (List.map φ)) stats lenDf minFreq =
      ((mergeLoop fuel groups stats lenDf minFreq).1.map (List.map φ),
       (mergeLoop fuel groups stats lenDf minFreq).2) := by
  induction fuel generalizing groups stats with
  | zero => rfl
  | succ fuel ih =>
    rw [mergeLoop, mergeLoop, mergeStep_map]
    cases mergeStep groups stats lenDf minFreq with
    | none => rfl
    | some p => exact ih p.1 p.2

end Merge
