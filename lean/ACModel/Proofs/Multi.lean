import ACModel.Model.Multiclass
import ACModel.Proofs.Frame
import ACModel.Proofs.Fit
/-
  Lemmas for C12: what the state assembled by `MulticlassCarver.fit` holds under the name `f_c`
  (merged dictionaries, feature list, casting), and that feature `f_c` of it is fitted like feature
  `f` of the one-vs-rest carver of class `c`.
-/

namespace MultiLemmas
open Disc FrameLemmas Multi

theorem appendClass_inj_left (c f f' : String) (h : appendClass f c = appendClass f' c) : f = f' := by
  have h1 := (String.append_left_inj c).1 h
  exact (String.append_left_inj "_").1 h1

theorem appendClass_inj_right (f c c' : String) (h : appendClass f c = appendClass f c') : c = c' :=
  (String.append_right_inj (f ++ "_")).1 h

theorem aget_dictUpdate {β : Type} (new acc : List (String × β)) (k : String) (hn : (akeys new).Nodup) :
    aget? (dictUpdate acc new) k = (match aget? new k with | some v => some v | none => aget? acc k) :=
  aget?_foldl_aset_pairs new acc k hn

theorem akeys_renameKeys {β : Type} (c : String) (l : List (String × β)) :
    akeys (renameKeys c l) = (akeys l).map (fun f => appendClass f c) := by
  simp [akeys, renameKeys, Function.comp_def]

theorem aget?_renameKeys_same {β : Type} (c : String) (l : List (String × β)) (f : String) :
    aget? (renameKeys c l) (appendClass f c) = aget? l f := by
  induction l with
  | nil => rfl
  | cons kv t ih =>
    unfold renameKeys at ih ⊢
    rw [List.map_cons, aget?_cons, aget?_cons, ih]
    by_cases e : kv.1 = f
    · rw [if_pos e, if_pos (by rw [e])]
    · rw [if_neg e, if_neg fun x => e (appendClass_inj_left c _ _ x)]

/-- **The renamed dictionaries**: after all classes have been merged, the entry under `f_c` is the
    entry of `f` in the dictionary of class `c` — provided no other (feature, class) pair produces
    the same name. -/
theorem aget_merged {β : Type} (R : String → List (String × β)) (f c : String) :
    ∀ (cs : List String) (acc : List (String × β)), cs.Nodup →
      (∀ c' ∈ cs, (akeys (R c')).Nodup) →
      (∀ c' ∈ cs, ∀ f' ∈ akeys (R c'), appendClass f' c' = appendClass f c → c' = c) →
      aget? (cs.foldl (fun acc c => dictUpdate acc (renameKeys c (R c))) acc) (appendClass f c) =
        (match (if c ∈ cs then aget? (R c) f else none) with
         | some v => some v
         | none => aget? acc (appendClass f c)) := by
  intro cs
  induction cs with
  | nil => intro acc _ _ _; simp
  | cons c0 t ih =>
    intro acc hnd hk hinj
    simp only [List.nodup_cons] at hnd
    simp only [List.foldl_cons]
    rw [ih _ hnd.2 (fun c' hc' => hk c' (List.mem_cons_of_mem _ hc'))
      (fun c' hc' => hinj c' (List.mem_cons_of_mem _ hc'))]
    have hkn : (akeys (renameKeys c0 (R c0))).Nodup := by
      rw [akeys_renameKeys]
      exact List.pairwise_map.2 ((hk c0 List.mem_cons_self).imp fun hab e => hab (appendClass_inj_left c0 _ _ e))
    rw [aget_dictUpdate _ _ _ hkn]
    by_cases e : c0 = c
    · -- the dictionary of `c` itself holds `f_c` where `R c` holds `f`, and no later class is `c` (`hnd.1`)
      subst e
      simp only [hnd.1, if_false, List.mem_cons, true_or, if_true, aget?_renameKeys_same]
    · -- the dictionary of another class has no entry named `f_c` (`hinj`)
      have hnone : aget? (renameKeys c0 (R c0)) (appendClass f c) = none := by
        rw [aget?_eq_none, akeys_renameKeys]
        intro hm
        obtain ⟨f', hf', x⟩ := List.mem_map.1 hm
        exact e (hinj c0 List.mem_cons_self f' hf' x)
      simp only [hnone, List.mem_cons, Ne.symm e, false_or]

/-- no (feature, class) pair over the given names and classes produces the same column name twice -/
def NamesInjective (names classes : List String) : Prop :=
  ∀ f ∈ names, ∀ f' ∈ names, ∀ c ∈ classes, ∀ c' ∈ classes,
    appendClass f c = appendClass f' c' → f = f' ∧ c = c'

/-- what is read from a fitted `BinaryCarver` is coherent: its kept features and the keys of its
    dictionaries are distinct raw feature names (hypotheses on the fitted state, evaluated by the
    driver on the implementation's state) -/
structure BResWF (raw : List String) (r : BRes) : Prop where
  featSub : ∀ f ∈ r.features, f ∈ raw
  featNodup : r.features.Nodup
  ordersNodup : (akeys r.orders).Nodup
  ordersSub : ∀ f ∈ akeys r.orders, f ∈ raw
  dtypeNodup : (akeys r.isQuant).Nodup
  dtypeSub : ∀ f ∈ akeys r.isQuant, f ∈ raw

theorem assemble_features (p : Shared) (raw classes : List String) (res : String → BRes) :
    (assemble p raw classes res).features =
      raw.flatMap (fun f => (classes.filter (fun c => decide (f ∈ (res c).features))).map (appendClass f)) := by
  simp [assemble, castedFeatures, List.flatMap_map]

theorem mem_assemble_features (p : Shared) (raw classes : List String) (res : String → BRes) (nm : String) :
    nm ∈ (assemble p raw classes res).features ↔
      ∃ f ∈ raw, ∃ c ∈ classes, f ∈ (res c).features ∧ nm = appendClass f c := by
  rw [assemble_features]
  simp only [List.mem_flatMap, List.mem_map, List.mem_filter, decide_eq_true_eq]
  constructor
  · rintro ⟨f, hf, c, ⟨hc, hk⟩, rfl⟩
    exact ⟨f, hf, c, hc, hk, rfl⟩
  · rintro ⟨f, hf, c, hc, hk, rfl⟩
    exact ⟨f, hf, c, ⟨hc, hk⟩, rfl⟩

theorem nodup_assemble_features (p : Shared) (raw classes : List String) (res : String → BRes)
    (hraw : raw.Nodup) (hcls : classes.Nodup) (hinj : NamesInjective raw classes) :
    (assemble p raw classes res).features.Nodup := by
  rw [assemble_features, List.Nodup, List.pairwise_flatMap]
  constructor
  · intro f _
    exact List.pairwise_map.2 ((hcls.sublist List.filter_sublist).imp fun hab e => hab (appendClass_inj_right f _ _ e))
  · refine hraw.imp_of_mem fun {f f'} hf hf' hne x hx y hy e => ?_
    obtain ⟨c, hc, rfl⟩ := List.mem_map.1 hx
    obtain ⟨c', hc', rfl⟩ := List.mem_map.1 hy
    exact hne (hinj f hf f' hf' c (List.mem_filter.1 hc).1 c' (List.mem_filter.1 hc').1 e).1

theorem find_map_pair (d : Bool) (n : String) (l : List String) (h : n ∈ l) :
    ((l.map (fun f => (f, d))).find? (fun fd => fd.1 = n)).map (·.2) = some d :=
  (aget?_eq_find? _ n).symm.trans ((aget?_map_self _ l n).trans (if_pos h))

theorem appendClass_ne (f c : String) : appendClass f c ≠ f := by
  intro h
  have := congrArg String.length h
  unfold appendClass at this
  rw [String.length_append, String.length_append] at this
  have h1 : "_".length = 1 := by decide
  omega

theorem shape_of_features {s : Disc} (hn : s.features.Nodup) (hq : s.quant.Sublist s.features)
    (hl : s.qual.Sublist s.features) (hfd : s.featDropna.map (·.1) = s.features) : s.Shape :=
  ⟨hn.sublist hq, hn.sublist hl, hfd ▸ hn⟩

theorem shape_assemble (p : Shared) (raw classes : List String) (res : String → BRes)
    (hraw : raw.Nodup) (hcls : classes.Nodup) (hinj : NamesInjective raw classes) (lpv : List (String × LabelTable)) :
    Disc.Shape { assemble p raw classes res with lpv := lpv } :=
  shape_of_features (nodup_assemble_features p raw classes res hraw hcls hinj) List.filter_sublist List.filter_sublist
    (by simp [assemble, Function.comp_def])

theorem shape_disc (p : Shared) (r : BRes) (hn : r.features.Nodup) (lpv : List (String × LabelTable)) :
    Disc.Shape { r.disc p with lpv := lpv } :=
  shape_of_features hn List.filter_sublist List.filter_sublist (by simp [BRes.disc, List.map_map, Function.comp_def])

/-- Feature `f_c` of the assembled multiclass state and feature `f` of the one-vs-rest carver of
    class `c` are fitted alike. -/
theorem alike_assemble (p : Shared) (raw classes : List String) (res : String → BRes)
    (hcls : classes.Nodup) (hinj : NamesInjective raw classes) (hwf : ∀ c ∈ classes, BResWF raw (res c))
    (m b : Disc) (c f : String) (hc : c ∈ classes) (hf : f ∈ (res c).features)
    (hm : (assemble p raw classes res).fit = .ok m) (hb : ((res c).disc p).fit = .ok b) :
    Alike m b (appendClass f c) f := by
  obtain ⟨tm, em⟩ := fit_table _ _ hm
  obtain ⟨tb, eb⟩ := fit_table _ _ hb
  have hfraw : f ∈ raw := (hwf c hc).featSub f hf
  have hmem : appendClass f c ∈ (assemble p raw classes res).features :=
    (mem_assemble_features p raw classes res _).2 ⟨f, hfraw, c, hc, hf, rfl⟩
  have merged : ∀ {β : Type} (R : String → List (String × β)), (∀ c' ∈ classes, (akeys (R c')).Nodup) →
      (∀ c' ∈ classes, ∀ f' ∈ akeys (R c'), f' ∈ raw) →
      aget? (classes.foldl (fun acc c => dictUpdate acc (renameKeys c (R c))) []) (appendClass f c) =
        aget? (R c) f := by
    intro β R hk hsub
    rw [aget_merged R f c classes [] hcls hk fun c' hc' f' hf' e =>
      (hinj f' (hsub c' hc' f' hf') f hfraw c' hc' c hc e).2, if_pos hc]
    cases aget? (R c) f <;> rfl
  have hord : aget? (assemble p raw classes res).orders (appendClass f c) = aget? (res c).orders f :=
    merged (fun c => (res c).orders) (fun c' hc' => (hwf c' hc').ordersNodup) fun c' hc' => (hwf c' hc').ordersSub
  have hdt := merged (fun c => (res c).isQuant) (fun c' hc' => (hwf c' hc').dtypeNodup) fun c' hc' =>
    (hwf c' hc').dtypeSub
  -- same type: both feature lists are filtered on the (merged) `input_dtypes`
  have typed : ∀ d : Bool,
      appendClass f c ∈ (assemble p raw classes res).features.filter (fun f =>
        aget? (classes.foldl (fun acc c => dictUpdate acc (renameKeys c (res c).isQuant)) []) f == some d) ↔
      f ∈ (res c).features.filter (fun f => aget? (res c).isQuant f == some d) := fun d => by
    rw [List.mem_filter, List.mem_filter, hdt]
    exact ⟨fun h => ⟨hf, h.2⟩, fun h => ⟨hmem, h.2⟩⟩
  have hq0 : appendClass f c ∈ (assemble p raw classes res).quant ↔ f ∈ ((res c).disc p).quant := typed true
  have hl0 : appendClass f c ∈ (assemble p raw classes res).qual ↔ f ∈ ((res c).disc p).qual := typed false
  have htab : tableFor (assemble p raw classes res) p.outFloat (appendClass f c) =
      tableFor ((res c).disc p) p.outFloat f := by
    unfold tableFor
    rw [hord, decide_eq_decide.2 hq0]
    rfl
  obtain ⟨t1, ht1, hl1⟩ := tm _ hmem
  obtain ⟨t2, ht2, hl2⟩ := tb f hf
  have ht : t1 = t2 := Option.some.inj (ht1.symm.trans (htab.trans ht2))
  rw [em, eb]
  exact {
    quant := hq0, qual := hl0, order := hord, nan := rfl, dflt := rfl
    table := hl1.trans (ht ▸ hl2.symm)
    fd := (find_map_pair p.dropna (appendClass f c) (assemble p raw classes res).features hmem).trans
      (find_map_pair p.dropna f (res c).features hf).symm }

/-- **The casting of the multiclass carver**: the name `f_c` of a kept copy receives the raw column
    `f`, and a name that is no `f_c` keeps its column. -/
theorem cast_assemble {raw classes : List String} {res : String → BRes} (hinj : NamesInjective raw classes)
    {m : Disc} (hcast : m.casting = castedFeatures raw classes res) {x0 x : Frame} (hc : m.castFeatures x0 = .ok x) :
    (∀ f ∈ raw, ∀ c ∈ classes, f ∈ (res c).features → aget? x (appendClass f c) = aget? x0 f) ∧
    (∀ nm, (∀ f ∈ raw, ∀ c ∈ classes, appendClass f c ≠ nm) → aget? x nm = aget? x0 nm) := by
  have hlist : ∀ e ∈ m.casting, ∀ nm ∈ e.2, e.1 ∈ raw ∧ ∃ c' ∈ classes, appendClass e.1 c' = nm := by
    intro e he nm hnm
    rw [hcast] at he
    obtain ⟨f', hf', rfl⟩ := List.mem_map.1 he
    obtain ⟨c', hc', e'⟩ := List.mem_map.1 hnm
    exact ⟨hf', c', (List.mem_filter.1 hc').1, e'⟩
  rw [castFeatures_eq] at hc
  constructor
  · intro f hf c hcl hk
    have hmem : (f, (classes.filter (fun c => decide (f ∈ (res c).features))).map (appendClass f)) ∈ m.casting :=
      hcast ▸ List.mem_map.2 ⟨f, hf, rfl⟩
    have hin : appendClass f c ∈ (classes.filter (fun c => decide (f ∈ (res c).features))).map (appendClass f) :=
      List.mem_map.2 ⟨c, List.mem_filter.2 ⟨hcl, decide_eq_true hk⟩, rfl⟩
    split at hc
    · -- the list of copies of `f` is not `[f]`
      rename_i hall
      have := beq_iff_eq.1 (List.all_eq_true.1 hall _ hmem)
      exact absurd (List.mem_singleton.1 (this ▸ hin)) (appendClass_ne f c)
    · rw [cast_col m.casting hc fun e he hin' => ?_, if_pos ⟨_, hmem, hin⟩]
      obtain ⟨hf', c', hc', e'⟩ := hlist e he _ hin'
      rw [(hinj e.1 hf' f hf c' hc' c hcl e').1]
  · intro nm hnew
    have hno : ∀ e ∈ m.casting, nm ∉ e.2 := fun e he hnm => by
      obtain ⟨hf', c', hc', e'⟩ := hlist e he nm hnm
      exact hnew _ hf' c' hc' e'
    split at hc
    · cases hc; rfl
    · rw [cast_col m.casting hc (v := none) fun e he hnm => absurd hnm (hno e he),
        if_neg fun ⟨e, he, hnm⟩ => hno e he hnm]

end MultiLemmas
