import ACModel.Proofs.GroupedList
/-
  Helper lemmas for the refinement theorem of C13: the abstraction `GL.abs` (read the concrete
  state in list order) commutes with every operation of the reference model `RefGL`.

  `abs` turns the two elementary updates into the dictionary operations of the same name
  (`abs_put`, `abs_del`); with the `*_cases` lemmas of Proofs/GroupedList.lean this settles every
  operation that is a composition of them.
-/

namespace Dict

theorem ext_of_nodup : ∀ {s t : Dict}, (keys s).Nodup → keys s = keys t →
    (∀ k ∈ keys s, get? s k = get? t k) → s = t := by
  intro s
  induction s with
  | nil => intro t _ hk _; cases t with | nil => rfl | cons _ _ => nomatch hk
  | cons kv s ih =>
    intro t hn hk hm
    obtain ⟨k, v⟩ := kv
    cases t with
    | nil => nomatch hk
    | cons kv' t =>
      obtain ⟨k', v'⟩ := kv'
      obtain ⟨rfl, hk'⟩ : k = k' ∧ keys s = keys t := List.cons.inj hk
      have hn' : k ∉ keys s ∧ (keys s).Nodup := List.nodup_cons.1 hn
      -- `get?` of a cons is an `if` on the head's key by definition: `hm` at `k` compares the heads,
      -- at a key of the tail the tails
      obtain rfl : v = v' :=
        Option.some.inj ((if_pos rfl).symm.trans ((hm k List.mem_cons_self).trans (if_pos rfl)))
      rw [ih hn'.2 hk' fun x hx => ?_]
      have hne : ¬ k = x := fun e => hn'.1 (e ▸ hx)
      exact (if_neg hne).symm.trans ((hm x (List.mem_cons_of_mem _ hx)).trans (if_neg hne))

end Dict

namespace GL
open Dict

theorem keys_abs (g : GL) : keys (abs g) = g.lst := keys_map_self g.get g.lst

theorem get?_abs {g : GL} {k : Val} (hk : k ∈ g.lst) : get? (abs g) k = some (g.get k) :=
  (get?_map_self g.get g.lst k).trans (if_pos hk)

theorem abs_eq_of {g' : GL} {S : Dict} (hn : g'.lst.Nodup) (hk : keys S = g'.lst)
    (hm : ∀ k ∈ g'.lst, get? S k = some (g'.get k)) : abs g' = S :=
  ext_of_nodup ((keys_abs g').symm ▸ hn) ((keys_abs g').trans hk.symm) fun k hk' => by
    rw [keys_abs] at hk'
    rw [get?_abs hk', hm k hk']

theorem members_abs {g : GL} (h : g.WF') (k : Val) : RefGL.members (abs g) k = g.get k := by
  unfold RefGL.members
  by_cases hk : k ∈ g.lst
  · rw [get?_abs hk]; rfl
  · rw [get?_eq_none.2 (by rwa [keys_abs]), get_of_not_mem (mt (h.mem_iff k).2 hk)]; rfl

theorem leaders_abs (g : GL) : RefGL.leaders (abs g) = g.lst := keys_abs g

theorem abs_del {g : GL} (hn : g.lst.Nodup) (k : Val) : abs (g.del k) = Dict.erase (abs g) k :=
  abs_eq_of (hn.erase k) (by rw [keys_erase, keys_abs]; rfl) fun x hx => by
    obtain ⟨hxk, hx⟩ := hn.mem_erase_iff.1 hx
    rw [get?_erase_of_ne _ hxk, get?_abs hx, get, get, del, get?_erase_of_ne _ hxk]

theorem abs_put {g : GL} (hn : g.lst.Nodup) (k : Val) (vs : List Val) :
    abs (g.put k vs) = Dict.set (abs g) k vs := by
  refine abs_eq_of ?_ (by rw [keys_set, keys_abs]; rfl) fun x hx => ?_
  · exact nodup_lst_put hn k vs
  · rw [get?_set, get, put, get?_set]
    split
    · rfl
    · rename_i hkx
      exact get?_abs ((mem_lst_put.1 hx).resolve_right (Ne.symm hkx))

theorem abs_group {g : GL} (h : g.WF') (d k : Val) : abs (g.group d k).1 = RefGL.group (abs g) d k := by
  unfold RefGL.group
  rw [leaders_abs]
  rcases group_cases (fun _ => h.mem_keys) d k with ⟨e, hdk⟩ | ⟨⟨_, e⟩, _, hm⟩ | ⟨e, hdk, hd, hk⟩ <;> rw [e]
  · exact (if_pos (.inl hdk)).symm
  · exact (if_pos (.inr hm)).symm
  -- `abs` turns `put` and `del` into `set` and `erase`; the filter of the reference model is an `erase`, which
  -- commutes with the `set`
  rw [if_neg (not_or.2 ⟨hdk, not_or.2 ⟨not_not_intro hd, not_not_intro hk⟩⟩), members_abs h, members_abs h,
    abs_put (h.del d).nodup_lst, abs_del h.nodup_lst,
    filter_ne_eq_erase (nodup_keys_set (by rw [keys_abs]; exact h.nodup_lst)), erase_set_comm _ hdk]

theorem abs_groupList {g : GL} (h : g.WF') (ds : List Val) (k : Val) :
    abs (g.groupList ds k).1 = RefGL.groupList (abs g) ds k := by
  induction ds generalizing g with
  | nil => rfl
  | cons d ds ih =>
    have hw := group_WF' h d k
    have ha := abs_group h d k
    unfold groupList RefGL.groupList
    rw [leaders_abs]
    rcases group_cases (fun _ => h.mem_keys) d k with ⟨e, hdk⟩ | ⟨⟨_, e⟩, hdk, hm⟩ | ⟨e, hdk, hd, hk⟩ <;>
      rw [e] at hw ha ⊢
    · rw [if_pos hdk]; exact ih h
    · rw [if_neg hdk, if_pos hm]
    · rw [if_neg hdk, if_neg (not_or.2 ⟨not_not_intro hd, not_not_intro hk⟩), ← ha]; exact ih hw

theorem abs_append {g : GL} (h : g.WF') (v : Val) (hv : v ∉ g.values) :
    abs (g.append v) = abs g ++ [(v, [v])] := by
  have hl := h.not_mem_lst hv
  rw [append_eq_put hl, abs_put h.nodup_lst, set_of_not_mem (by rwa [keys_abs])]

theorem abs_remove {g : GL} (h : g.WF') (v : Val) :
    abs (g.remove v).1 = if v ∈ g.lst then Dict.erase (abs g) v else abs g := by
  rcases remove_cases g v with ⟨e, hv⟩ | ⟨_, hv, hc⟩ | ⟨e, hv, _⟩
  · rw [e, if_neg hv]
  · exact absurd (h.mem_keys hv) hc
  · rw [e, if_pos hv, abs_del h.nodup_lst]

theorem abs_pop {g : GL} (h : g.WF') (i : Int) :
    abs (g.pop i).1 = match pyIndex g.lst i with
      | some v => Dict.erase (abs g) v
      | none => abs g := by
  unfold pop
  cases hi : pyIndex g.lst i with
  | none => rfl
  | some v => exact (abs_remove h v).trans (if_pos (mem_of_pyIndex hi))

theorem abs_reorder {g : GL} (h : g.WF') (o : List Val) :
    abs (g.reorder o) = o.map (fun k => (k, RefGL.members (abs g) k)) :=
  List.map_congr_left fun k (hk : k ∈ o) => by rw [get, reorder, get?_map_self, if_pos hk, members_abs h]; rfl

theorem abs_sort {g : GL} (h : g.WF') :
    abs (match g.sort with | .ok g' => g' | .error _ => g) =
      (isort Val.strLe (g.lst.filter Val.isStr) ++ isort Val.numLe (g.lst.filter (fun v => !v.isStr))).map
        (fun k => (k, RefGL.members (abs g) k)) := by
  rw [sort_eq h]
  exact abs_reorder h _

theorem abs_sortBy {g : GL} (h : g.WF') (o : List Val) (hn : o.Nodup) :
    abs (match g.sortBy o with | .ok g' => g' | .error _ => g) =
      if o.all (· ∈ RefGL.leaders (abs g)) ∧ (RefGL.leaders (abs g)).all (· ∈ o)
      then o.map (fun k => (k, RefGL.members (abs g) k)) else abs g := by
  rw [leaders_abs]
  rcases sortBy_cases h hn with ⟨⟨_, e⟩, hc⟩ | ⟨e, hc⟩ <;> rw [e]
  · exact (if_neg fun hh => hc ⟨List.all_mem_iff.1 hh.1, List.all_mem_iff.1 hh.2⟩).symm
  · rw [if_pos ⟨List.all_mem_iff.2 hc.1, List.all_mem_iff.2 hc.2⟩]
    exact abs_reorder h _

theorem listReplaceFirst_eq_map {l : List Val} (hn : l.Nodup) (a b : Val) :
    listReplaceFirst l a b = l.map (fun k => if k = a then b else k) := by
  induction l with
  | nil => rfl
  | cons x t ih =>
    rw [List.nodup_cons] at hn
    rw [listReplaceFirst, List.map_cons]
    by_cases hx : x = a
    · rw [if_pos hx, if_pos hx]
      exact congrArg _ ((List.map_id t).symm.trans
        (List.map_congr_left fun k hk => (if_neg fun e : k = a => hn.1 (hx ▸ e ▸ hk)).symm))
    · rw [if_neg hx, if_neg hx, ih hn.2]

theorem abs_replaceLeader {g : GL} (h : g.WF') (l m : Val) (hlm : l ≠ m) :
    abs (g.replaceLeader l m).1 =
      if m ∈ RefGL.members (abs g) l ∧ l ∈ RefGL.leaders (abs g)
      then (abs g).map (fun kv => if kv.1 = l then (m, kv.2) else kv) else abs g := by
  rw [leaders_abs, members_abs h]
  rcases replaceLeader_cases g l m with ⟨e, hc⟩ | ⟨e, hc⟩ <;> rw [e]
  · exact (if_neg hc).symm
  have hml := h.not_mem_lst_of_mem_get hlm hc.1
  rw [if_pos hc, abs, abs, listReplaceFirst_eq_map h.nodup_lst, List.map_map, List.map_map]
  refine List.map_congr_left fun k hk => ?_
  dsimp only [Function.comp, get]
  by_cases hkl : k = l
  · rw [if_pos hkl, if_pos hkl, get?_erase_of_ne _ (Ne.symm hlm), get?_set, if_pos rfl, hkl]; rfl
  · rw [if_neg hkl, if_neg hkl, get?_erase_of_ne _ hkl, get?_set, if_neg fun e : m = k => hml (e ▸ hk)]

theorem update_cons (g : GL) {k : Val} (v : List Val) {t : Dict} (hk : k ∉ keys t) :
    g.update ((k, v) :: t) = (g.put k v).update t := by
  unfold update put
  rw [keys_cons]
  congr 1
  by_cases hkl : k ∈ g.lst
  · rw [if_pos hkl, List.filter_cons, if_neg (by simpa using hkl)]
  · rw [if_neg hkl, List.filter_cons, if_pos (by simpa using hkl), List.append_assoc]
    congr 2
    refine List.filter_congr fun x hx => ?_
    have : x ≠ k := fun e => hk (e ▸ hx)
    simp [this]

theorem abs_update_of_nodup {d : Dict} (hd : (keys d).Nodup) : ∀ {g : GL}, g.lst.Nodup →
    abs (g.update d) = Dict.update (abs g) d := by
  induction d with
  | nil => intro g _; rw [update, keys_nil, List.filter_nil, List.append_nil]; rfl
  | cons kv t ih =>
    intro g hn
    rw [keys_cons, List.nodup_cons] at hd
    rw [update_cons g kv.2 hd.1, ih hd.2 (nodup_lst_put hn _ _), abs_put hn]; rfl

theorem abs_update {g : GL} (h : g.WF') (d : Dict) (hv : ValidUpdate g d) :
    abs (g.update d) = Dict.update (abs g) d :=
  abs_update_of_nodup hv.1 h.nodup_lst

end GL
