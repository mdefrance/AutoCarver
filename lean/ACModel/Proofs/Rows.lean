import ACModel.Model.Carve
/-
  From tables to rows: what the per-modality table the carving search works on says of a column of
  rows, so that the bounds of C02 can be stated on the *transformed training column* rather than on
  the table (`C02.Counts` is the link).
-/

namespace List

theorem map_eq_map_range {α β : Type} {l : List α} {f : α → β} {g : Nat → β}
    (h : ∀ i (hi : i < l.length), f l[i] = g i) : l.map f = (List.range l.length).map g :=
  List.ext_getElem (by rw [List.length_map, List.length_map, List.length_range]) fun i h1 _ => by
    rw [List.getElem_map, List.getElem_map, List.getElem_range, h i (List.length_map f ▸ h1)]

theorem countP_or {α : Type} {p q : α → Bool} (h : ∀ a, p a = true → q a = true → False) (l : List α) :
    l.countP (fun a => p a || q a) = l.countP p + l.countP q := by
  induction l with
  | nil => rfl
  | cons a l ih =>
    rw [List.countP_cons, List.countP_cons, List.countP_cons, ih]
    cases hp : p a <;> cases hq : q a
    · rfl
    · rfl
    · exact Nat.add_right_comm ..
    · exact (h a hp hq).elim

end List

namespace RowLemmas
open Carve

/-- the aggregated row of a group of modalities (`_grouper`) -/
def groupRow (t : List (String × Row)) (grp : List String) : Row :=
  grp.foldl (fun acc x => acc.add (lookupRow t x)) Row.zero

theorem groupRow_n (t : List (String × Row)) (g : List String) :
    (groupRow t g).n = (g.map fun x => (lookupRow t x).n).sum := by
  rw [groupRow, ← List.foldl_hom Row.n (g₂ := fun n x => n + (lookupRow t x).n) fun _ _ => rfl,
    List.sum_eq_foldl, List.foldl_map]; rfl

theorem groupRow_s (t : List (String × Row)) (g : List String) :
    (groupRow t g).s = (g.map fun x => (lookupRow t x).s).sum := by
  rw [groupRow, ← List.foldl_hom Row.s (g₂ := fun n x => n + (lookupRow t x).s) fun _ _ => rfl,
    List.sum_eq_foldl, List.foldl_map]; rfl

theorem groupRow_poison {t : List (String × Row)} {g : List String}
    (h : ∀ x ∈ g, (lookupRow t x).poison = false) : (groupRow t g).poison = false := by
  rw [groupRow, ← List.foldl_hom Row.poison (g₂ := fun b x => b || (lookupRow t x).poison) fun _ _ => rfl]
  induction g with
  | nil => rfl
  | cons x g ih => rw [List.foldl_cons, h x List.mem_cons_self]; exact ih fun y hy => h y (List.mem_cons_of_mem _ hy)

theorem grouper_eq {cfg : Cfg} (hns : cfg.sortGroupsByLabel = false) (t : List (String × Row))
    (comb : List (List String)) :
    grouper cfg t comb = comb.filterMap fun g => g.head?.map fun l => (l, groupRow t g) := by
  rw [grouper, hns]
  exact congrArg (List.filterMap · comb) (funext fun g => by cases g <;> rfl)

theorem grouper_rows {cfg : Cfg} (hns : cfg.sortGroupsByLabel = false) (t : List (String × Row))
    {comb : List (List String)} (hne : ∀ g ∈ comb, g ≠ []) :
    (grouper cfg t comb).map (·.2) = comb.map (groupRow t) := by
  rw [grouper_eq hns]
  induction comb with
  | nil => rfl
  | cons g rest ih =>
    cases g with
    | nil => exact absurd rfl (hne _ List.mem_cons_self)
    | cons l tl => exact congrArg (groupRow t (l :: tl) :: ·) (ih fun g hg => hne g (List.mem_cons_of_mem _ hg))

/-- index of the group holding a modality (not `C03.groupIdx`, the position of the first leader `≥` a number) -/
def groupIdx {α : Type} [DecidableEq α] (comb : List (List α)) (v : α) : Nat := comb.findIdx (fun g => g.contains v)

theorem groupIdx_lt {α : Type} [DecidableEq α] (comb : List (List α)) (v : α) (h : v ∈ comb.flatten) :
    groupIdx comb v < comb.length := by
  obtain ⟨g, hg, hv⟩ := List.mem_flatten.1 h
  exact List.findIdx_lt_length_of_exists ⟨g, hg, by simpa using hv⟩

theorem groupIdx_eq_iff {α : Type} [DecidableEq α] (comb : List (List α)) (i : Nat) (hi : i < comb.length)
    (v : α) (hnd : comb.flatten.Nodup) : groupIdx comb v = i ↔ v ∈ comb[i] := by
  rw [groupIdx, List.findIdx_eq hi]
  simp only [List.contains_eq_mem, decide_eq_true_eq, decide_eq_false_iff_not]
  -- the goal: `v ∈ comb[i]` and `v` in no earlier group, which is what distinct groups sharing no element gives
  have hdisj : ∀ j (hj : j < i), ∀ x ∈ comb[j]'(Nat.lt_trans hj hi), ∀ y ∈ comb[i], x ≠ y := fun j hj =>
    List.pairwise_iff_getElem.1 (List.pairwise_flatten.1 hnd).2 j i _ hi hj
  exact ⟨(·.1), fun h => ⟨h, fun j hj hv => hdisj j hj v hv v h rfl⟩⟩

theorem contains_getElem {α : Type} [DecidableEq α] {comb : List (List α)} (hnd : comb.flatten.Nodup) {i : Nat}
    (hi : i < comb.length) (v : α) : comb[i].contains v = (groupIdx comb v == i) := by
  rw [Bool.eq_iff_iff, List.contains_eq_mem, decide_eq_true_eq, beq_iff_eq, groupIdx_eq_iff comb i hi v hnd]

theorem count_groupIdx (col : List String) (comb : List (List String)) (hnd : comb.flatten.Nodup)
    (i : Nat) (hi : i < comb.length) :
    (col.map (groupIdx comb)).count i = col.countP (fun v => comb[i].contains v) := by
  rw [List.count_eq_countP, List.countP_map]
  exact List.countP_congr fun v _ => by rw [contains_getElem hnd hi]; rfl

theorem sum_count_eq_countP (col : List String) (grp : List String) (hnd : grp.Nodup) :
    (grp.map (fun x => col.count x)).sum = col.countP (fun v => grp.contains v) := by
  induction grp with
  | nil => simp
  | cons x g ih =>
    rw [List.map_cons, List.sum_cons, ih (List.nodup_cons.1 hnd).2, List.count_eq_countP, ← List.countP_or]
    · exact List.countP_congr fun v _ => by rw [List.contains_cons]
    · exact fun v h1 h2 => (List.nodup_cons.1 hnd).1 (by simpa [eq_of_beq h1] using h2)

theorem sum_groupRow_n (t : List (String × Row)) (comb : List (List String)) :
    ((comb.map (groupRow t)).map (·.n)).sum = (groupRow t comb.flatten).n := by
  induction comb with
  | nil => rfl
  | cons g L ih =>
    rw [List.map_cons, List.map_cons, List.sum_cons, ih, List.flatten_cons, groupRow_n, groupRow_n,
      groupRow_n, List.map_append, List.sum_append_nat]

/-- sum of the target over the rows whose modality satisfies `p` -/
def sumWhere (p : String → Bool) : List String → List Rat → Rat
  | c :: col, v :: y => (if p c then v else 0) + sumWhere p col y
  | _, _ => 0

theorem sumWhere_congr {p q : String → Bool} {col : List String} (y : List Rat) (h : ∀ c ∈ col, p c = q c) :
    sumWhere p col y = sumWhere q col y := by
  fun_induction sumWhere p col y with
  | case1 c col v y ih => rw [sumWhere, h c List.mem_cons_self, ih fun c' hc' => h c' (List.mem_cons_of_mem _ hc')]
  -- case 2 is the catch-all equation (one of the lists is empty); `rw [sumWhere]` asks for its side condition `hne`
  | case2 col y hne => rw [sumWhere]; exact hne

theorem sumWhere_false (col : List String) (y : List Rat) : sumWhere (fun _ => false) col y = 0 := by
  fun_induction sumWhere (fun _ => false) col y with
  | case1 c col v y ih => rw [ih]; exact Rat.add_zero _
  | case2 => rfl

theorem sumWhere_or {p q : String → Bool} (hd : ∀ c, p c = true → q c = true → False) (col : List String)
    (y : List Rat) : sumWhere (fun c => p c || q c) col y = sumWhere p col y + sumWhere q col y := by
  fun_induction sumWhere (fun c => p c || q c) col y with
  | case1 c col v y ih =>
    rw [ih, sumWhere, sumWhere]
    cases hp : p c <;> cases hq : q c
    · simp only [Bool.or_false, Bool.false_eq_true, if_false, Rat.zero_add]
    · simp only [Bool.or_true, Bool.false_eq_true, if_true, if_false, Rat.zero_add]; ac_rfl
    · simp only [Bool.or_false, Bool.false_eq_true, if_true, if_false, Rat.zero_add]; ac_rfl
    · exact (hd c hp hq).elim
  -- the catch-all equation, twice, each with the side condition `hne` (as in `sumWhere_congr`)
  | case2 col y hne => rw [sumWhere, sumWhere, Rat.add_zero] <;> exact hne

theorem sum_sumWhere_group (col : List String) (y : List Rat) (grp : List String) (hnd : grp.Nodup) :
    (grp.map (fun x => sumWhere (fun c => c == x) col y)).sum = sumWhere (fun c => grp.contains c) col y := by
  induction grp with
  | nil => exact (sumWhere_false col y).symm
  | cons x g ih =>
    rw [List.map_cons, List.sum_cons, ih (List.nodup_cons.1 hnd).2, ← sumWhere_or]
    · exact sumWhere_congr y fun c _ => by rw [List.contains_cons]
    · exact fun v h1 h2 => (List.nodup_cons.1 hnd).1 (by simpa [eq_of_beq h1] using h2)

end RowLemmas

namespace C02
open Carve

/-- the table counts the rows of a column of modalities, and none of its rows is the NaN row of a
    modality absent from the sample (train tables never have one) -/
def Counts (t : List (String × Row)) (col : List String) : Prop :=
  ∀ l, (lookupRow t l).n = col.count l ∧ (lookupRow t l).poison = false

end C02
