import ACModel.Proofs.Carve
import ACModel.Proofs.Rows
/-
  Renaming the base labels of a feature by an injective map: the tables, groupings, measures and viability verdicts of
  the carving search are carried along unchanged.
-/

namespace RenameLemmas
open Carve RowLemmas

def renT (ρ : String → String) (t : List (String × Row)) : List (String × Row) := t.map (fun p => (ρ p.1, p.2))
def renC (ρ : String → String) (comb : List (List String)) : List (List String) := comb.map (fun g => g.map ρ)

def Inj (ρ : String → String) : Prop := ∀ a b, ρ a = ρ b → a = b

theorem lookupRow_ren {ρ : String → String} (hρ : Inj ρ) (t : List (String × Row)) (l : String) :
    lookupRow (renT ρ t) (ρ l) = lookupRow t l := by
  have : ∀ p : String × Row, (ρ p.1 == ρ l) = (p.1 == l) := fun p =>
    Bool.eq_iff_iff.2 ⟨fun h => beq_iff_eq.2 (hρ _ _ (eq_of_beq h)), fun h => beq_iff_eq.2 (congrArg ρ (eq_of_beq h))⟩
  simp only [lookupRow, renT, List.find?_map, Function.comp_def, this]
  cases t.find? (fun p => p.1 == l) <;> rfl

theorem groupRow_ren {ρ : String → String} (hρ : Inj ρ) (t : List (String × Row)) (g : List String) :
    groupRow (renT ρ t) (g.map ρ) = groupRow t g := by
  simp only [groupRow, List.foldl_map, lookupRow_ren hρ]

theorem grouper_ren {ρ : String → String} (hρ : Inj ρ) (cfg : Cfg) (hns : cfg.sortGroupsByLabel = false)
    (t : List (String × Row)) (comb : List (List String)) :
    grouper cfg (renT ρ t) (renC ρ comb) = renT ρ (grouper cfg t comb) := by
  simp only [grouper_eq hns, renC, List.filterMap_map, Function.comp_def, List.head?_map, groupRow_ren hρ]
  simp only [renT, List.map_filterMap, Option.map_map, Function.comp_def]

theorem rows_ren (ρ : String → String) (g : List (String × Row)) : (renT ρ g).map (·.2) = g.map (·.2) :=
  List.map_map

/-- the rank tests look at the rows only -/
theorem resolveRanks_ren (ρ : String → String) (cfg : Cfg) (t d : List (String × Row)) :
    resolveRanks cfg (renT ρ t) (renT ρ d) = resolveRanks cfg t d := by
  simp only [resolveRanks, ranksCertain, ranksPossible, renT, List.zip_map, pairs_map, List.all_map, List.map_map,
    Function.comp_def]
  rfl

theorem viability_ren {ρ : String → String} (hρ : Inj ρ) (cfg : Cfg) (hns : cfg.sortGroupsByLabel = false)
    (t : List (String × Row)) (dev : Option (List (String × Row))) (comb : List (List String)) :
    viability cfg (renT ρ t) (dev.map (renT ρ)) (renC ρ comb) = viability cfg t dev comb := by
  cases dev <;> simp only [viability, Option.map_none, Option.map_some, grouper_ren hρ cfg hns,
    rows_ren, resolveRanks_ren]

theorem nRows_ren (ρ : String → String) (t : List (String × Row)) : nRows (renT ρ t) = nRows t :=
  congrArg (List.foldl (· + ·) 0) List.map_map

def renCand (ρ : String → String) (c : Cand) : Cand := { c with comb := renC ρ c.comb }

theorem candidates_ren {ρ : String → String} (hρ : Inj ρ) (cfg : Cfg) (hns : cfg.sortGroupsByLabel = false)
    (t : Table) (dev : Option (List (String × Row))) (combs : List (List (List String))) :
    candidates cfg { rows := renT ρ t.rows, tie := t.tie } (dev.map (renT ρ)) (combs.map (renC ρ))
      = (candidates cfg t dev combs).map (renCand ρ) := by
  simp only [candidates, renCand, List.map_map, nRows_ren, Function.comp_def, grouper_ren hρ cfg hns, rows_ren,
    viability_ren hρ cfg hns]

@[simp] theorem renCand_m (ρ : String → String) (c : Cand) : (renCand ρ c).m = c.m := rfl
@[simp] theorem renCand_v (ρ : String → String) (c : Cand) : (renCand ρ c).v = c.v := rfl

theorem search_ren (ρ : String → String) (cands : List Cand) (tol : Rat) :
    search (cands.map (renCand ρ)) tol = match search cands tol with
      | .crash => .crash
      | .none => .none
      | .best ws d => .best (ws.map (renCand ρ)) d :=
  search_map (renCand_m ρ) (renCand_v ρ) cands tol

open Comb

theorem splitsUpTo_map {α β : Type} (f : α → β) : ∀ (r : Nat) (l : List α),
    splitsUpTo r (l.map f) = (splitsUpTo r l).map (fun c => c.map (fun g => g.map f)) := by
  intro r l
  fun_induction splitsUpTo r l with
  | case1 => simp [splitsUpTo]
  | case2 => simp [splitsUpTo]
  | case3 r a t ih =>
    simp only [List.map_cons, splitsUpTo, List.length_cons, List.length_map, List.map_flatMap, List.map_map]
    refine congrArg (List.flatMap · _) (funext fun i => ?_)
    rw [← List.map_cons, ← List.map_drop, ← List.map_take, ih, List.map_map]
    rfl

theorem consecutiveCombinations_map (ρ : String → String) (labels : List String) (m : Nat) :
    consecutiveCombinations (labels.map ρ) m = (consecutiveCombinations labels m).map (renC ρ) := by
  simp only [consecutiveCombinations, splitsUpTo_map, List.filter_map, Function.comp_def, List.length_map]
  rfl

theorem nanCombinations_map (ρ : String → String) (leaders : List String) (nan : String) (m : Nat) :
    nanCombinations (leaders.map ρ) (ρ nan) m = (nanCombinations leaders nan m).map (renC ρ) := by
  simp only [nanCombinations, nanPlacements, consecutiveCombinations_map, List.map_flatMap, List.flatMap_map,
    List.map_append, List.map_map, Function.comp_def]
  refine congrArg (List.flatMap · _) (funext fun c => ?_)
  rw [show (renC ρ c).length = c.length from List.length_map _]
  split <;> simp [renC, fun n => addAt_map nan ρ n c]

end RenameLemmas
