import ACModel.Spec.Frame
import ACModel.Proofs.AList
import ACModel.Proofs.Column
/-
  Frames (association lists of named columns) and `Disc.transform`.

  Every phase of `transform` is a loop of steps of the form "read column `f`, compute a new column
  from it, write it back under the same name".  Such a step acts on the frame column by column
  (`ColWise`), which sequencing keeps (`ColWise.bind`); so do a phase and the three phases one after
  the other.  What `transform` does to a column, when it succeeds and how it can fail are read off
  that.  Last: the feature's name enters `colTransform` through the fitted entries looked up under
  it and through the message of the AssertionError, nothing else; so features fitted alike
  (`MultiLemmas.Alike`) have the same `.ok` results (`colTransform_alike`).
-/

namespace FrameLemmas
open Disc

section
variable {α β : Type} [DecidableEq α]

theorem aget_some_mem_akeys (l : List (α × β)) (k : α) (v : β) (h : aget? l k = some v) : k ∈ akeys l :=
  mem_akeys.2 ⟨v, h⟩

end

/-- one step of a phase of `transform`: `key a` names the column, `upd a` computes the new column
    (or fails), `miss a` is what happens when the frame has no such column (an error, or nothing) -/
def step {κ : Type} (key : κ → String) (upd : κ → Col → Except Err Col) (miss : κ → Except Err Unit)
    (acc : Frame) (a : κ) : Except Err Frame :=
  match aget? acc (key a) with
  | some c => (upd a c).map (fun c' => aset acc (key a) c')
  | none => (miss a).map (fun _ => acc)

/-- a column update on a column that may be absent: `m` is what happens then (an error, or nothing) -/
def liftCol (u : Col → Except Err Col) (m : Except Err Unit) : Option Col → Except Err (Option Col)
  | some c => (u c).map some
  | none => m.map fun _ => none

theorem liftCol_eq_ok {u : Col → Except Err Col} {m : Except Err Unit} {oc oc' : Option Col} :
    liftCol u m oc = .ok oc' ↔
      (∃ c c', oc = some c ∧ u c = .ok c' ∧ oc' = some c') ∨ (oc = none ∧ m = .ok () ∧ oc' = none) := by
  cases oc with
  | none =>
    refine ⟨fun h => ?_, fun h => ?_⟩
    · obtain ⟨_, hm, rfl⟩ := Except.map_eq_ok.1 h
      exact .inr ⟨rfl, hm, rfl⟩
    · obtain ⟨_, _, h, _⟩ | ⟨_, hm, rfl⟩ := h
      · cases h
      · exact Except.map_eq_ok.2 ⟨(), hm, rfl⟩
  | some c =>
    refine ⟨fun h => ?_, fun h => ?_⟩
    · obtain ⟨c', hu, rfl⟩ := Except.map_eq_ok.1 h
      exact .inl ⟨c, c', rfl, hu, rfl⟩
    · obtain ⟨_, c', h, hu, rfl⟩ | ⟨h, _⟩ := h
      · cases h; exact Except.map_eq_ok.2 ⟨c', hu, rfl⟩
      · cases h

theorem liftCol_eq_error {u : Col → Except Err Col} {m : Except Err Unit} {oc : Option Col} {e : Err} :
    liftCol u m oc = .error e ↔ (∃ c, oc = some c ∧ u c = .error e) ∨ (oc = none ∧ m = .error e) := by
  cases oc <;> simp [liftCol, Except.map_eq_error]

/-- `r` is what becomes of the frame `x` when the column of every name `n` goes through `F n`: on
    success the same names in the same order with every column updated, else the error of a column -/
def ColWise (F : String → Option Col → Except Err (Option Col)) (x : Frame) : Except Err Frame → Prop
  | .ok out => akeys out = akeys x ∧ ∀ n, F n (aget? x n) = .ok (aget? out n)
  | .error e => ∃ n, F n (aget? x n) = .error e

theorem ColWise.bind {F G : String → Option Col → Except Err (Option Col)} {x : Frame} {r : Except Err Frame}
    {T : Frame → Except Err Frame} (h : ColWise F x r) (hT : ∀ y, ColWise G y (T y)) :
    ColWise (fun n oc => (F n oc).bind (G n)) x (r.bind T) := by
  cases r with
  | error e => obtain ⟨n, hn⟩ := h; exact ⟨n, Except.bind_eq_error.2 (.inl hn)⟩
  | ok y =>
    have h2 := hT y
    show ColWise _ x (T y)
    cases hy : T y with
    | error e =>
      rw [hy] at h2
      obtain ⟨n, hn⟩ := h2
      exact ⟨n, Except.bind_eq_error.2 (.inr ⟨_, h.2 n, hn⟩)⟩
    | ok out =>
      rw [hy] at h2
      exact ⟨h2.1.trans h.1, fun n => Except.bind_eq_ok.2 ⟨_, h.2 n, h2.2 n⟩⟩

theorem colWise_foldlM {κ : Type} {T : Frame → κ → Except Err Frame}
    {F : κ → String → Option Col → Except Err (Option Col)} (h : ∀ a x, ColWise (F a) x (T x a))
    (as : List κ) (x : Frame) : ColWise (fun n oc => as.foldlM (fun oc a => F a n oc) oc) x (as.foldlM T x) := by
  induction as generalizing x with
  | nil => exact ⟨rfl, fun _ => rfl⟩
  | cons a as ih => exact (h a x).bind ih

section
variable {κ : Type} (key : κ → String) (upd : κ → Col → Except Err Col) (miss : κ → Except Err Unit)

theorem step_colWise (a : κ) (x : Frame) :
    ColWise (fun n oc => if key a = n then liftCol (upd a) (miss a) oc else .ok oc) x (step key upd miss x a) := by
  unfold step
  cases hc : aget? x (key a) with
  | none =>
    dsimp only
    cases hm : miss a with
    | error e => exact ⟨key a, by dsimp only; rw [if_pos rfl, hc]; rfl⟩
    | ok u =>
      refine ⟨rfl, fun n => ?_⟩
      dsimp only
      split
      · rename_i hn; subst hn; rw [hc]; rfl
      · rfl
  | some c =>
    dsimp only
    cases hu : upd a c with
    | error e => exact ⟨key a, by dsimp only; rw [if_pos rfl, hc, liftCol, hu]; rfl⟩
    | ok c' =>
      refine ⟨by rw [akeys_aset, if_pos (mem_akeys.2 ⟨c, hc⟩)], fun n => ?_⟩
      dsimp only
      rw [aget?_aset]
      split
      · rename_i hn; subst hn; rw [hc, liftCol, hu]; rfl
      · rfl

/-- what a phase makes of the column named `n` -/
def phaseCol (as : List κ) (n : String) (oc : Option Col) : Except Err (Option Col) :=
  match as.find? (fun a => key a = n) with
  | some a => liftCol (upd a) (miss a) oc
  | none => .ok oc

theorem phase_colWise (as : List κ) (hnd : (as.map key).Nodup) (x : Frame) :
    ColWise (phaseCol key upd miss as) x (as.foldlM (step key upd miss) x) := by
  have := colWise_foldlM (step_colWise key upd miss) as x
  -- the keys being distinct, the loop over `as` does to column `n` what its one step of key `n` does
  -- (`List.foldlM_keyed`): `phaseCol` by definition
  simp only [List.foldlM_keyed key _ _ as hnd] at this
  exact this

theorem phaseCol_of_mem {as : List κ} (hnd : (as.map key).Nodup) {a : κ} (ha : a ∈ as) (oc : Option Col) :
    phaseCol key upd miss as (key a) oc = liftCol (upd a) (miss a) oc := by
  have : as.find? (fun b => key b = key a) = some a := by
    induction as with
    | nil => cases ha
    | cons b t ih =>
      rw [List.map_cons, List.nodup_cons] at hnd
      rw [List.find?_cons]
      rcases List.mem_cons.1 ha with rfl | ha
      · rw [decide_eq_true rfl]
      · rw [decide_eq_false fun (e : key b = key a) => hnd.1 (e ▸ List.mem_map_of_mem ha), ih hnd.2 ha]
  rw [phaseCol, this]

theorem phaseCol_of_ne {as : List κ} {n : String} (h : ∀ a ∈ as, key a ≠ n) (oc : Option Col) :
    phaseCol key upd miss as n oc = .ok oc := by
  rw [phaseCol, List.find?_eq_none.2 fun a ha => by simpa using h a ha]

theorem phaseCol_eq_error {as : List κ} {n : String} {oc : Option Col} {e : Err}
    (h : phaseCol key upd miss as n oc = .error e) : ∃ a ∈ as, key a = n ∧ liftCol (upd a) (miss a) oc = .error e := by
  unfold phaseCol at h
  split at h
  · rename_i a hf
    exact ⟨a, List.mem_of_find?_eq_some hf, by simpa using List.find?_some hf, h⟩
  · cases h

theorem phase_keys : ∀ (as : List κ) (x out : Frame),
    as.foldlM (step key upd miss) x = .ok out → akeys out = akeys x := by
  intro as x out h
  have := colWise_foldlM (step_colWise key upd miss) as x
  rw [h] at this
  exact this.1

theorem phase_other : ∀ (as : List κ) (x out : Frame) (n : String), (∀ a ∈ as, key a ≠ n) →
    as.foldlM (step key upd miss) x = .ok out → aget? out n = aget? x n := by
  intro as x out n hn h
  have := colWise_foldlM (step_colWise key upd miss) as x
  rw [h] at this
  have h2 := this.2 n
  dsimp only at h2
  rw [List.foldlM_keyed_of_ne key _ n as hn] at h2
  exact (Except.ok.inj h2).symm

theorem phase_spec : ∀ (as : List κ) (x out : Frame), (as.map key).Nodup →
    as.foldlM (step key upd miss) x = .ok out →
    ∀ a ∈ as, (∃ c c', aget? x (key a) = some c ∧ upd a c = .ok c' ∧ aget? out (key a) = some c') ∨
              (aget? x (key a) = none ∧ miss a = .ok () ∧ aget? out (key a) = none) := by
  intro as x out hnd h a ha
  have := phase_colWise key upd miss as hnd x
  rw [h] at this
  have h2 := this.2 (key a)
  rw [phaseCol_of_mem key upd miss hnd ha] at h2
  exact liftCol_eq_ok.1 h2

theorem phase_err : ∀ (as : List κ) (x : Frame) (e : Err), (as.map key).Nodup →
    as.foldlM (step key upd miss) x = .error e →
    ∃ a ∈ as, (∃ c, aget? x (key a) = some c ∧ upd a c = .error e) ∨ (aget? x (key a) = none ∧ miss a = .error e) := by
  intro as x e hnd h
  have := phase_colWise key upd miss as hnd x
  rw [h] at this
  obtain ⟨n, hn⟩ := this
  obtain ⟨a, ha, rfl, hl⟩ := phaseCol_eq_error key upd miss hn
  exact ⟨a, ha, liftCol_eq_error.1 hl⟩

theorem phase_ok : ∀ (as : List κ) (x : Frame), (as.map key).Nodup →
    (∀ a ∈ as, ∃ c c', aget? x (key a) = some c ∧ upd a c = .ok c') →
    ∃ out, as.foldlM (step key upd miss) x = .ok out := by
  intro as x hnd hall
  cases h : as.foldlM (step key upd miss) x with
  | ok out => exact ⟨out, rfl⟩
  | error e =>
    obtain ⟨a, ha, hcase⟩ := phase_err key upd miss as x e hnd h
    obtain ⟨d, d', hd, hud⟩ := hall a ha
    rw [hd] at hcase
    obtain ⟨c, hc, hu⟩ | ⟨hc, _⟩ := hcase
    · cases hc; rw [hud] at hu; cases hu
    · cases hc

def mapF (φ : Col → Col) (x : Frame) : Frame := x.map (fun nc => (nc.1, φ nc.2))

theorem aget?_mapF (φ : Col → Col) (x : Frame) (n : String) : aget? (mapF φ x) n = (aget? x n).map φ :=
  aget?_map_snd φ x n

theorem mapF_aset (φ : Col → Col) (x : Frame) (k : String) (c : Col) :
    mapF φ (aset x k c) = aset (mapF φ x) k (φ c) :=
  (aset_map_snd φ x k c).symm

theorem akeys_mapF (φ : Col → Col) (x : Frame) : akeys (mapF φ x) = akeys x := by
  simp [akeys, mapF, Function.comp_def]

theorem phase_map (φ : Col → Col) (hupd : ∀ a c c', upd a c = .ok c' → upd a (φ c) = .ok (φ c')) :
    ∀ (as : List κ) (x out : Frame), as.foldlM (step key upd miss) x = .ok out →
      as.foldlM (step key upd miss) (mapF φ x) = .ok (mapF φ out) := by
  intro as x out
  refine List.foldlM_hom (mapF φ) as fun a _ s s' hs => ?_
  unfold step at hs ⊢
  rw [aget?_mapF]
  cases hc : aget? s (key a) with
  | none =>
    rw [hc] at hs
    obtain ⟨u, hm, rfl⟩ := Except.map_eq_ok.1 hs
    exact Except.map_eq_ok.2 ⟨u, hm, rfl⟩
  | some c =>
    rw [hc] at hs
    obtain ⟨c', hu, rfl⟩ := Except.map_eq_ok.1 hs
    exact Except.map_eq_ok.2 ⟨φ c', hupd a c c' hu, (mapF_aset φ s (key a) c').symm⟩

end

theorem qUpd_of_some {s : Disc} {f : String} {g : GL} {t : LabelTable} (ho : aget? s.orders f = some g)
    (hl : aget? s.lpv f = some t) (c : Col) : qUpd s f c = transformQuantCol f g t s.strNan c := by
  rw [qUpd, ho, hl]

theorem lUpd_of_some {s : Disc} {f : String} {g : GL} {t : LabelTable} (ho : aget? s.orders f = some g)
    (hl : aget? s.lpv f = some t) (c : Col) : lUpd s f c = transformQualCol f g t s.strNan s.strDefault c := by
  rw [lUpd, ho, hl]

theorem quantStep_eq (s : Disc) : quantStep s = step id (qUpd s) keyMiss := by
  funext acc f
  unfold quantStep step qUpd keyMiss colOf; dsimp only [id]
  cases aget? s.orders f <;> cases aget? s.lpv f <;> cases aget? acc f <;> rfl

theorem qualStep_eq (s : Disc) : qualStep s = step id (lUpd s) keyMiss := by
  funext acc f
  unfold qualStep step lUpd keyMiss colOf; dsimp only [id]
  cases aget? s.orders f <;> cases aget? s.lpv f <;> cases aget? acc f <;> rfl

theorem nanStep_eq (s : Disc) : nanStep s = step (·.1) (nUpd s) (nMiss s) := by
  funext acc ⟨n, b⟩
  unfold nanStep step nUpd nMiss colOf
  -- where `nUpd` gives the column back as it is, `nanStep` gives the frame back as it is
  have keep : ∀ c, aget? acc n = some c → (.ok acc : Except Err Frame) = .ok (aset acc n c) :=
    fun c h => by rw [aset_self h]
  cases b with
  | true => cases h : aget? acc n with | none => rfl | some c => exact keep c h
  | false =>
    cases aget? s.lpv n with
    | none => cases aget? acc n <;> rfl
    | some t =>
      cases nanVal s.strNan with
      | none => cases h : aget? acc n with | none => rfl | some c => exact keep c h
      | some v =>
        dsimp only
        cases aget? t v with
        | none => cases h : aget? acc n with | none => rfl | some c => exact keep c h
        | some lab => cases aget? acc n <;> rfl

theorem transform_eq (s : Disc) (x0 : Frame) : s.transform x0 = (s.castFeatures x0).bind fun x =>
    if ∃ f ∈ s.features, aget? x f = none then .error (.assertion "columns are missing") else
    (s.quant.foldlM (step id (qUpd s) keyMiss) x).bind fun x1 =>
    (s.qual.foldlM (step id (lUpd s) keyMiss) x1).bind fun x2 =>
    s.featDropna.foldlM (step (·.1) (nUpd s) (nMiss s)) x2 := by
  have hchk : ∀ x : Frame, (!(s.features.filter (fun f => (colOf x f).isNone)).isEmpty) = true ↔
      ∃ f ∈ s.features, aget? x f = none := by
    simp [colOf]
  simp only [transform, quantStep_eq, qualStep_eq, nanStep_eq, hchk]

theorem phaseCol_id {U : String → Col → Except Err Col} {M : String → Except Err Unit} (as : List String) (n : String)
    (oc : Option Col) : phaseCol id U M as n oc = if n ∈ as then liftCol (U n) (M n) oc else .ok oc := by
  unfold phaseCol
  split
  · rename_i a hf
    obtain rfl : a = n := by simpa using List.find?_some hf
    rw [if_pos (List.mem_of_find?_eq_some hf)]
  · rename_i hf
    rw [if_neg fun h => by simpa using List.find?_eq_none.1 hf n h]

/-- what `transform` makes of the column named `n`, present or not: the three phases -/
def colChain (s : Disc) (n : String) (oc : Option Col) : Except Err (Option Col) :=
  (phaseCol id (qUpd s) keyMiss s.quant n oc).bind fun o1 =>
  (phaseCol id (lUpd s) keyMiss s.qual n o1).bind (phaseCol (·.1) (nUpd s) (nMiss s) s.featDropna n)

theorem transform_colWise (s : Disc) (hs : s.Shape) {x0 x : Frame} (hc : s.castFeatures x0 = .ok x) :
    (∃ f ∈ s.features, aget? x f = none) ∧ s.transform x0 = .error (.assertion "columns are missing") ∨
    (∀ f ∈ s.features, aget? x f ≠ none) ∧ ColWise (colChain s) x (s.transform x0) := by
  have h1 := phase_colWise id (qUpd s) keyMiss s.quant ((List.map_id _).symm ▸ hs.quantNodup)
  have h2 := phase_colWise id (lUpd s) keyMiss s.qual ((List.map_id _).symm ▸ hs.qualNodup)
  have h3 := phase_colWise (·.1) (nUpd s) (nMiss s) s.featDropna hs.fdNodup
  rw [transform_eq, hc, Except.ok_bind]
  by_cases h : ∃ f ∈ s.features, aget? x f = none
  · rw [if_pos h]; exact .inl ⟨h, rfl⟩
  · rw [if_neg h]; exact .inr ⟨fun f hf hx => h ⟨f, hf, hx⟩, (h1 x).bind fun y => (h2 y).bind h3⟩

theorem colChain_some (s : Disc) (n : String) (c : Col) : colChain s n (some c) = (colTransform s n c).map some := by
  have h1 : ∀ (P : Prop) [Decidable P] (u : Col → Except Err Col) (m : Except Err Unit) (c : Col),
      (if P then liftCol u m (some c) else .ok (some c)) = (if P then u c else .ok c).map some := by
    intros; split <;> rfl
  have h3 : ∀ c2, phaseCol (·.1) (nUpd s) (nMiss s) s.featDropna n (some c2) =
      (match s.featDropna.find? (fun fd : String × Bool => fd.1 = n) with
       | some fd => nUpd s fd c2
       | none => .ok c2).map some := by
    intro c2; unfold phaseCol; cases s.featDropna.find? (fun fd : String × Bool => fd.1 = n) <;> rfl
  unfold colChain colTransform
  -- each phase on a present column is the update `.map some` (`phaseCol_id` with `h1`, `h3`); the `some`
  -- moves through the binds to the outside
  simp only [phaseCol_id, h1, h3, Except.bind_map, Except.map_bind]
  rfl

theorem colChain_of_untyped {s : Disc} {n : String} (h1 : n ∉ s.quant) (h2 : n ∉ s.qual)
    (h3 : ∀ fd ∈ s.featDropna, fd.1 ≠ n) (oc : Option Col) : colChain s n oc = .ok oc := by
  rw [colChain, phaseCol_id, if_neg h1, Except.ok_bind, phaseCol_id, if_neg h2, Except.ok_bind,
    phaseCol_of_ne _ _ _ h3]

theorem colTransform_of_untyped {s : Disc} {n : String} (h1 : n ∉ s.quant) (h2 : n ∉ s.qual)
    (h3 : ∀ fd ∈ s.featDropna, fd.1 ≠ n) (c : Col) : colTransform s n c = .ok c := by
  have := colChain_some s n c
  rw [colChain_of_untyped h1 h2 h3] at this
  obtain ⟨c', h, e⟩ := Except.map_eq_ok.1 this.symm
  cases e; exact h

/-- **`transform` acts column by column.**  Whenever it succeeds (after the casting of
    `features_casting`) it keeps the list of columns, and column `n` of the result is
    `colTransform s n` of column `n` of the input — for every name, fitted feature or not. -/
theorem transform_spec (s : Disc) (hs : s.Shape) (x0 x out : Frame)
    (hc : s.castFeatures x0 = .ok x) (h : s.transform x0 = .ok out) :
    akeys out = akeys x ∧
    ∀ n, (∀ c, aget? x n = some c → ∃ c', colTransform s n c = .ok c' ∧ aget? out n = some c') ∧
         (aget? x n = none → aget? out n = none) := by
  obtain ⟨_, he⟩ | ⟨_, hcw⟩ := transform_colWise s hs hc
  · rw [he] at h; cases h
  · rw [h] at hcw
    refine ⟨hcw.1, fun n => ⟨fun c hx => ?_, fun hx => ?_⟩⟩
    · have := hcw.2 n
      rw [hx, colChain_some, Except.map_eq_ok] at this
      obtain ⟨c', h1, h2⟩ := this
      exact ⟨c', h1, h2.symm⟩
    · rw [aget?_eq_none] at hx ⊢
      rwa [hcw.1]

/-- **When `transform` succeeds**: every fitted feature has its column and `colTransform` accepts
    it (`hsub`: typed features and `features_dropna` keys are fitted features). -/
theorem transform_ok (s : Disc) (hs : s.Shape)
    (hsub : ∀ f, (f ∈ s.quant ∨ f ∈ s.qual ∨ ∃ fd ∈ s.featDropna, fd.1 = f) → f ∈ s.features)
    (x0 x : Frame) (hc : s.castFeatures x0 = .ok x)
    (hall : ∀ f ∈ s.features, ∃ c c', aget? x f = some c ∧ colTransform s f c = .ok c') :
    ∃ out, s.transform x0 = .ok out := by
  obtain ⟨⟨f, hf, hx⟩, _⟩ | ⟨_, hcw⟩ := transform_colWise s hs hc
  · obtain ⟨c, _, hcx, _⟩ := hall f hf
    rw [hx] at hcx; cases hcx
  · cases h : s.transform x0 with
    | ok out => exact ⟨out, rfl⟩
    | error e =>
      -- the column that fails is no feature's (those are accepted), yet only features are worked on
      rw [h] at hcw
      obtain ⟨n, hn⟩ := hcw
      by_cases hf : n ∈ s.features
      · obtain ⟨c, c', hcx, hct⟩ := hall n hf
        rw [hcx, colChain_some, hct] at hn; cases hn
      · rw [colChain_of_untyped (fun h => hf (hsub n (.inl h))) (fun h => hf (hsub n (.inr (.inl h))))
          (fun fd hfd e => hf (hsub n (.inr (.inr ⟨fd, hfd, e⟩))))] at hn
        cases hn

theorem transform_cols_present (s : Disc) (x0 x out : Frame) (hc : s.castFeatures x0 = .ok x)
    (h : s.transform x0 = .ok out) : ∀ f ∈ s.features, ∃ c, aget? x f = some c := by
  rw [transform_eq, hc, Except.ok_bind] at h
  split at h
  · cases h
  · rename_i hm
    exact fun f hf => Option.ne_none_iff_exists'.1 fun hx => hm ⟨f, hf, hx⟩

/-- **How `transform` can fail** (after a successful casting): the missing-columns AssertionError,
    or the update of one feature's column failed (quantitative, qualitative, or the missing-value
    step). -/
theorem transform_error_cases (s : Disc) (hs : s.Shape) (hdisj : ∀ f ∈ s.qual, f ∉ s.quant)
    (x0 x : Frame) (hc : s.castFeatures x0 = .ok x) (e : Err) (h : s.transform x0 = .error e) :
    e = Err.assertion "columns are missing" ∨
    ((∀ f ∈ s.features, ∃ c, aget? x f = some c) ∧
    ((∃ f ∈ s.quant, (∃ c, aget? x f = some c ∧ qUpd s f c = .error e) ∨ (aget? x f = none ∧ e = Err.keyError)) ∨
    (∃ f ∈ s.qual, (∃ c, aget? x f = some c ∧ lUpd s f c = .error e) ∨ (aget? x f = none ∧ e = Err.keyError)) ∨
    (∃ fd ∈ s.featDropna, (∃ c, nUpd s fd c = .error e) ∨ nMiss s fd = .error e))) := by
  obtain ⟨_, he⟩ | ⟨hp, hcw⟩ := transform_colWise s hs hc
  · rw [he] at h
    exact .inl (Except.error.inj h).symm
  · refine .inr ⟨fun f hf => Option.ne_none_iff_exists'.1 (hp f hf), ?_⟩
    rw [h] at hcw
    obtain ⟨n, hn⟩ := hcw
    have typed : ∀ {U : String → Col → Except Err Col} {f : String},
        liftCol (U f) (keyMiss f) (aget? x f) = .error e →
        (∃ c, aget? x f = some c ∧ U f c = .error e) ∨ (aget? x f = none ∧ e = Err.keyError) := fun hl =>
      (liftCol_eq_error.1 hl).imp_right fun ⟨hx, hm⟩ => ⟨hx, (Except.error.inj hm).symm⟩
    rcases Except.bind_eq_error.1 hn with h1 | ⟨o1, h1, hn⟩
    · obtain ⟨f, hf, rfl, hl⟩ := phaseCol_eq_error _ _ _ h1
      exact .inl ⟨f, hf, typed hl⟩
    · rcases Except.bind_eq_error.1 hn with h2 | ⟨o2, _, h3⟩
      · obtain ⟨f, hf, rfl, hl⟩ := phaseCol_eq_error _ _ _ h2
        -- a qualitative feature is not quantitative: the first phase left its column alone
        have ho1 : aget? x f = o1 := Except.ok.inj
          ((phaseCol_of_ne id _ _ (fun a ha (e : a = f) => hdisj f hf (e ▸ ha)) _).symm.trans h1)
        subst ho1
        exact .inr (.inl ⟨f, hf, typed hl⟩)
      · obtain ⟨fd, hfd, _, hl⟩ := phaseCol_eq_error _ _ _ h3
        refine .inr (.inr ⟨fd, hfd, ?_⟩)
        rcases liftCol_eq_error.1 hl with ⟨c, _, hu⟩ | ⟨_, hm⟩
        · exact .inl ⟨c, hu⟩
        · exact .inr hm

/-- the duplication step of `_cast_features`, reading the raw columns from `x0` -/
def castStep (x0 : Frame) (acc : Frame) (c : String × List String) : Except Err Frame :=
  if c.2.isEmpty then pure acc else
  match aget? x0 c.1 with
  | some col => pure (c.2.foldl (fun acc n => aset acc n col) acc)
  | none => throw Err.keyError

theorem castFeatures_eq (s : Disc) (x0 : Frame) : s.castFeatures x0 =
    if s.casting.all (fun c => c.2 == [c.1]) then .ok x0 else s.casting.foldlM (castStep x0) x0 := rfl

theorem castStep_get {x0 acc acc' : Frame} {c : String × List String} (h : castStep x0 acc c = .ok acc') (nm : String) :
    aget? acc' nm = if nm ∈ c.2 then aget? x0 c.1 else aget? acc nm := by
  unfold castStep at h
  split at h
  · rename_i he
    cases h
    rw [if_neg (List.isEmpty_iff.1 he ▸ List.not_mem_nil)]
  · split at h
    · rename_i col hcol
      cases h
      rw [aget?_foldl_aset, hcol]
    · cases h

/-- The casting loop gives the name `nm` the raw column of the entries that list it, provided these
    all hold the same column (`hv`). -/
theorem cast_col {x0 : Frame} {nm : String} {v : Option Col} (cs : List (String × List String)) {acc x : Frame}
    (h : cs.foldlM (castStep x0) acc = .ok x) (hv : ∀ e ∈ cs, nm ∈ e.2 → aget? x0 e.1 = v) :
    aget? x nm = if ∃ e ∈ cs, nm ∈ e.2 then v else aget? acc nm :=
  List.foldlM_get (get := (aget? · nm)) (w := (nm ∈ ·.2)) (val := (aget? x0 ·.1)) v cs
    (fun _ _ _ _ h => castStep_get h nm) hv h

theorem castFeatures_map (s : Disc) (φ : Col → Col) (x0 x : Frame) (h : s.castFeatures x0 = .ok x) :
    s.castFeatures (mapF φ x0) = .ok (mapF φ x) := by
  rw [castFeatures_eq] at h ⊢
  split at h
  · cases h; rw [if_pos ‹_›]
  · rw [if_neg ‹_›]
    refine List.foldlM_hom (mapF φ) s.casting (fun c _ acc acc' ha => ?_) h
    unfold castStep at ha ⊢
    rw [aget?_mapF]
    split at ha
    · cases ha; rw [if_pos ‹_›]; rfl
    · rw [if_neg ‹_›]
      cases hcol : aget? x0 c.1 with
      | none => rw [hcol] at ha; cases ha
      | some col =>
        rw [hcol] at ha; cases ha
        exact congrArg Except.ok (List.foldl_hom (mapF φ) fun x n => (mapF_aset φ x n col).symm)

theorem nUpd_map {φ : Col → Col} (hn : ∀ (g : Cell → Cell) c, φ (c.map g) = (φ c).map g) {s : Disc}
    {a : String × Bool} {c c' : Col} (hu : nUpd s a c = .ok c') : nUpd s a (φ c) = .ok (φ c') := by
  unfold nUpd at hu ⊢
  split at hu
  · cases hu; rw [if_pos ‹_›]
  · rw [if_neg ‹_›]
    revert hu
    cases aget? s.lpv a.1 with
    | none => exact nofun
    | some t =>
      dsimp only
      cases nanVal s.strNan with
      | none => intro hu; cases hu; rfl
      | some n =>
        dsimp only
        cases aget? t n with
        | none => intro hu; cases hu; rfl
        | some lab => intro hu; cases hu; exact congrArg Except.ok (hn _ c).symm

/-- **`transform` commutes with any function applied to every column that the column updates
    commute with** (instantiated with row selections in C07). -/
theorem transform_map (s : Disc) (φ : Col → Col)
    (hq : ∀ f g t c c', transformQuantCol f g t s.strNan c = .ok c' →
      transformQuantCol f g t s.strNan (φ c) = .ok (φ c'))
    (hl : ∀ f g t c c', transformQualCol f g t s.strNan s.strDefault c = .ok c' →
      transformQualCol f g t s.strNan s.strDefault (φ c) = .ok (φ c'))
    (hn : ∀ (g : Cell → Cell) c, φ (c.map g) = (φ c).map g)
    (x0 out : Frame) (h : s.transform x0 = .ok out) : s.transform (mapF φ x0) = .ok (mapF φ out) := by
  have q1 : ∀ a c c', qUpd s a c = .ok c' → qUpd s a (φ c) = .ok (φ c') := by
    intro a c c' hu
    unfold qUpd at hu ⊢
    split at hu
    · exact hq _ _ _ _ _ hu
    · cases hu
  have q2 : ∀ a c c', lUpd s a c = .ok c' → lUpd s a (φ c) = .ok (φ c') := by
    intro a c c' hu
    unfold lUpd at hu ⊢
    split at hu
    · exact hl _ _ _ _ _ hu
    · cases hu
  simp only [transform_eq, Except.bind_eq_ok] at h ⊢
  obtain ⟨x, hc, h⟩ := h
  refine ⟨_, castFeatures_map s φ x0 x hc, ?_⟩
  -- the mapped frame lacks a column exactly when `x` does
  simp only [aget?_mapF, Option.map_eq_none_iff]
  split at h
  · cases h
  · rw [if_neg ‹_›]
    simp only [Except.bind_eq_ok] at h ⊢
    obtain ⟨x1, h1, x2, h2, h3⟩ := h
    exact ⟨_, phase_map _ (qUpd s) _ φ q1 _ _ _ h1, _, phase_map _ (lUpd s) _ φ q2 _ _ _ h2,
      phase_map _ (nUpd s) _ φ (fun _ _ _ => nUpd_map hn) _ _ _ h3⟩

end FrameLemmas

namespace MultiLemmas
open Disc

/-- feature `n` of `s` and feature `n'` of `s'` are fitted alike -/
structure Alike (s s' : Disc) (n n' : String) : Prop where
  quant : n ∈ s.quant ↔ n' ∈ s'.quant
  qual : n ∈ s.qual ↔ n' ∈ s'.qual
  order : aget? s.orders n = aget? s'.orders n'
  table : aget? s.lpv n = aget? s'.lpv n'
  nan : s.strNan = s'.strNan
  dflt : s.strDefault = s'.strDefault
  fd : (s.featDropna.find? (fun fd => fd.1 = n)).map (·.2) = (s'.featDropna.find? (fun fd => fd.1 = n')).map (·.2)

theorem find?_fst (l : List (String × Bool)) (n : String) :
    l.find? (fun fd => fd.1 = n) = ((l.find? (fun fd => fd.1 = n)).map (·.2)).map (n, ·) := by
  cases hf : l.find? (fun fd => fd.1 = n) with
  | none => rfl
  | some fd =>
    have e : fd.1 = n := by simpa using List.find?_some hf
    exact congrArg some (Prod.ext e rfl)

section
variable {s s' : Disc} {n n' : String} (h : Alike s s' n n')
include h

theorem Alike.qUpd_ok {c r : Col} (hr : qUpd s n c = .ok r) : qUpd s' n' c = .ok r := by
  unfold qUpd at hr ⊢
  rw [← h.order, ← h.table, ← h.nan]
  split at hr
  · exact transformQuantCol_eq_ok.2 (transformQuantCol_eq_ok.1 hr)
  · cases hr

theorem Alike.lUpd_ok {c r : Col} (hr : lUpd s n c = .ok r) : lUpd s' n' c = .ok r := by
  unfold lUpd at hr ⊢
  rw [← h.order, ← h.table, ← h.nan, ← h.dflt]
  split at hr
  · exact transformQualCol_eq_ok.2 (transformQualCol_eq_ok.1 hr)
  · cases hr

theorem Alike.nan_eq (c : Col) :
    (match s.featDropna.find? (fun fd => fd.1 = n) with
      | some fd => nUpd s fd c
      | none => .ok c) =
    (match s'.featDropna.find? (fun fd => fd.1 = n') with
      | some fd => nUpd s' fd c
      | none => .ok c) := by
  rw [find?_fst s.featDropna, find?_fst s'.featDropna, h.fd]
  cases (s'.featDropna.find? (fun fd => fd.1 = n')).map (·.2) with
  | none => rfl
  | some b =>
    show nUpd s (n, b) c = nUpd s' (n', b) c
    unfold nUpd
    rw [h.table, h.nan]

end

theorem colTransform_alike {s s' : Disc} {n n' : String} (h : Alike s s' n n') (c r : Col)
    (hr : colTransform s n c = .ok r) : colTransform s' n' c = .ok r := by
  unfold colTransform at hr ⊢
  simp only [Except.bind_eq_ok] at hr ⊢
  obtain ⟨c1, h1, c2, h2, h3⟩ := hr
  refine ⟨c1, ?_, c2, ?_, (h.nan_eq c2).symm.trans h3⟩
  · by_cases a : n ∈ s.quant
    · rw [if_pos a] at h1; rw [if_pos (h.quant.1 a)]; exact h.qUpd_ok h1
    · rw [if_neg a] at h1; rw [if_neg (mt h.quant.2 a)]; exact h1
  · by_cases a : n ∈ s.qual
    · rw [if_pos a] at h2; rw [if_pos (h.qual.1 a)]; exact h.lUpd_ok h2
    · rw [if_neg a] at h2; rw [if_neg (mt h.qual.2 a)]; exact h2

end MultiLemmas
