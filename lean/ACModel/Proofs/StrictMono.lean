/-
  Strictly increasing re-encodings of rational values preserve and reflect `≤`, `<` and `=`, which
  is all that quantiles, ranks and tie counts see of the values.
-/

namespace C11

def StrictMono (f : Rat → Rat) : Prop := ∀ a b, a < b → f a < f b

theorem StrictMono.le {f : Rat → Rat} (hf : StrictMono f) {a b : Rat} (h : a ≤ b) : f a ≤ f b := by
  by_cases e : a = b
  · subst e; exact Rat.le_refl
  · exact Rat.le_of_lt (hf a b (Rat.lt_of_le_of_ne h e))

theorem StrictMono.le_iff {f : Rat → Rat} (hf : StrictMono f) {a b : Rat} : f a ≤ f b ↔ a ≤ b := by
  constructor
  · intro h
    apply Rat.not_lt.1
    intro hlt
    exact (Rat.not_le.2 (hf b a hlt)) h
  · exact hf.le

theorem StrictMono.lt_iff {f : Rat → Rat} (hf : StrictMono f) {a b : Rat} : f a < f b ↔ a < b := by
  rw [← Rat.not_le, ← Rat.not_le, hf.le_iff]

theorem StrictMono.inj {f : Rat → Rat} (hf : StrictMono f) {a b : Rat} (h : f a = f b) : a = b :=
  Rat.le_antisymm (hf.le_iff.1 (h ▸ Rat.le_refl)) (hf.le_iff.1 (h ▸ Rat.le_refl))

end C11
