import ACModel.Model.Carve
/-
  `Carve.search` is unfolded here and nowhere else: everything `Props/C01`, `C02` and `C11` say
  about the search rests on `search_iff` and `search_map`; `viable_eq` is the verdict of `Carve.viability`.
-/

theorem List.isEmpty_filter {α : Type} (p : α → Bool) (l : List α) : (l.filter p).isEmpty = !l.any p := by
  induction l with
  | nil => rfl
  | cons a t ih => rw [List.filter_cons]; cases h : p a <;> simp [h, ih]

namespace Comb
variable {α : Type} (nan : α)

theorem length_addAt (n : Nat) (c : List (List α)) : (addAt nan n c).length = c.length := by
  fun_induction addAt nan n c with
  | case1 => rfl
  | case2 => rfl
  | case3 n g t ih => exact congrArg (· + 1) ih

theorem addAt_flatten_perm (n : Nat) (c : List (List α)) (h : n < c.length) :
    (addAt nan n c).flatten.Perm (nan :: c.flatten) := by
  fun_induction addAt nan n c with
  | case1 => simp at h
  | case2 g t =>
    simp only [List.flatten_cons, List.append_assoc, List.singleton_append]
    exact List.perm_middle
  | case3 n g t ih => exact ((ih (Nat.lt_of_succ_lt_succ h)).append_left g).trans List.perm_middle

theorem addAt_nonempty (n : Nat) (c : List (List α)) (h : ∀ g ∈ c, g ≠ []) : ∀ g ∈ addAt nan n c, g ≠ [] := by
  fun_induction addAt nan n c with
  | case1 => exact h
  | case2 g0 t => rw [List.forall_mem_cons] at h ⊢; exact ⟨by simp, h.2⟩
  | case3 n g0 t ih => rw [List.forall_mem_cons] at h ⊢; exact ⟨h.1, ih h.2⟩

theorem addAt_map {β : Type} (f : α → β) (n : Nat) (c : List (List α)) :
    addAt (f nan) n (c.map (List.map f)) = (addAt nan n c).map (List.map f) := by
  fun_induction addAt nan n c with
  | case1 => simp [addAt]
  | case2 => simp [addAt]
  | case3 n g t ih => exact congrArg (g.map f :: ·) ih

end Comb

namespace Carve

theorem pairs_map {α β : Type} (f : α → β) (l : List α) :
    pairs (l.map f) = (pairs l).map (fun p => (f p.1, f p.2)) := by
  fun_induction pairs l with
  | case1 => rfl
  | case2 x t ih =>
    simp only [List.map_cons, pairs, List.map_append, List.map_map, ih]
    rfl

/-- the acceptable winners, as `search` computes them -/
def winners (tol : Rat) (cands : List Cand) : List Cand :=
  (cands.filter (·.v.viable)).filter fun c =>
    !(cands.filter (·.v.certain)).any fun d => gtKey tol (keyOf d.m) (keyOf c.m)

theorem mem_winners {tol : Rat} {cands : List Cand} {w : Cand} :
    w ∈ winners tol cands ↔ w ∈ cands ∧ w.v.viable = true ∧
      ∀ d ∈ cands, d.v.certain = true → gtKey tol (keyOf d.m) (keyOf w.m) = false := by
  simp only [winners, List.mem_filter, Bool.not_eq_true', List.any_eq_false, and_imp, and_assoc,
    Bool.not_eq_true]

theorem search_eq (cands : List Cand) (tol : Rat) :
    search cands tol =
      if cands.any (fun c => c.m == .crash) then .crash
      else if cands.any (·.v.viable) then .best (winners tol cands) (cands.all (!·.v.certain))
      else .none := by
  unfold search winners
  split
  · rfl
  · -- the right side in the terms of the definition: `all (!certain)` says that `filter certain` is empty, `any viable`
    -- that `filter viable` is not
    rw [← List.not_any_eq_all_not, ← List.isEmpty_filter,
      show cands.any (·.v.viable) = !(cands.filter (·.v.viable)).isEmpty by rw [List.isEmpty_filter, Bool.not_not]]
    cases cands.filter (·.v.viable) <;> rfl

theorem search_iff (cands : List Cand) (tol : Rat) (r : Search) :
    search cands tol = r ↔
      match r with
      | .crash => cands.any (fun c => c.m == .crash) = true
      | .none => cands.any (fun c => c.m == .crash) = false ∧ cands.any (·.v.viable) = false
      | .best ws drop => cands.any (fun c => c.m == .crash) = false ∧ cands.any (·.v.viable) = true ∧
          ws = winners tol cands ∧ drop = cands.all (!·.v.certain) := by
  rw [search_eq]
  cases cands.any (fun c => c.m == .crash) <;> cases cands.any (·.v.viable) <;> cases r <;> simp [eq_comm]

theorem certain_viable {v : Viab} (h : v.certain = true) : v.viable = true :=
  (Bool.and_eq_true_iff.1 h).1

/-- the verdict of `_test_viability`: the two train tests and, when a dev sample is given, the rank test, the two
    frequency tests and the distinct-rate test on it -/
theorem viable_eq (cfg : Cfg) (train : List (String × Row)) (dev : Option (List (String × Row)))
    (comb : List (List String)) :
    (viability cfg train dev comb).viable =
      ((minFreqOk cfg ((grouper cfg train comb).map (·.2)) && distinctRates ((grouper cfg train comb).map (·.2))) &&
        match dev with
        | none => true
        | some d =>
          (resolveRanks cfg (grouper cfg train comb) (grouper cfg d comb)).1 &&
          (minFreqOk cfg ((grouper cfg d comb).map (·.2)) &&
            (freqs ((grouper cfg d comb).map (·.2))).all (fun f => decide (0 < f))) &&
          distinctRates ((grouper cfg d comb).map (·.2))) := by
  unfold viability
  cases dev with
  | none => rfl
  | some d =>
    -- the dev tests are skipped when the train tests fail: both sides are `false` then
    dsimp only
    cases minFreqOk cfg ((grouper cfg train comb).map (·.2)) &&
      distinctRates ((grouper cfg train comb).map (·.2)) <;> rfl

/-- the search allows dropping the feature: it found nothing, or nothing that is viable whatever the rate ties -/
def Search.drops (s : Search) : Prop := s = .none ∨ ∃ ws, s = .best ws true

/-- the search allows `w` as the winner -/
def Search.picks (s : Search) (w : Cand) : Prop := ∃ ws d, s = .best ws d ∧ w ∈ ws

theorem not_certain_of_drops {cands : List Cand} {tol : Rat} (h : (search cands tol).drops) :
    ∀ c ∈ cands, c.v.certain = false := by
  intro c hc
  rcases h with h | ⟨ws, h⟩
  · exact Bool.eq_false_iff.2 fun hcert =>
      List.any_eq_false.1 ((search_iff ..).1 h).2 c hc (certain_viable hcert)
  · simpa using List.all_eq_true.1 ((search_iff ..).1 h).2.2.2.symm c hc

theorem winners_map {f : Cand → Cand} (hm : ∀ c, (f c).m = c.m) (hv : ∀ c, (f c).v = c.v) (tol : Rat)
    (cands : List Cand) : winners tol (cands.map f) = (winners tol cands).map f := by
  simp only [winners, List.filter_map, List.any_map, Function.comp_def, hm, hv]

theorem search_map {f : Cand → Cand} (hm : ∀ c, (f c).m = c.m) (hv : ∀ c, (f c).v = c.v) (cands : List Cand)
    (tol : Rat) :
    search (cands.map f) tol = match search cands tol with
      | .crash => .crash
      | .none => .none
      | .best ws d => .best (ws.map f) d := by
  simp only [search_eq, winners_map hm hv, List.any_map, List.all_map, Function.comp_def, hm, hv]
  cases cands.any (fun c => c.m == .crash) <;> cases cands.any (·.v.viable) <;> rfl

end Carve
