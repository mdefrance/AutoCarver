import ACModel.Model.Measures

namespace MeasureLemmas
open Carve Measures

theorem sumR_eq_sum (l : List Rat) : sumR l = l.sum := List.sum_eq_foldl.symm

@[simp] theorem sumR_nil : sumR [] = 0 := rfl

theorem sumR_cons (a : Rat) (l : List Rat) : sumR (a :: l) = a + sumR l := by
  simp only [sumR_eq_sum, List.sum_cons]

theorem sumR_append (l m : List Rat) : sumR (l ++ m) = sumR l + sumR m := by
  simp only [sumR_eq_sum, List.sum_append]

theorem sumR_flatten (ls : List (List Rat)) : sumR ls.flatten = sumR (ls.map sumR) := by
  induction ls with
  | nil => rfl
  | cons a t ih => simp only [List.flatten_cons, sumR_append, List.map_cons, sumR_cons, ih]

theorem sumR_perm {l l' : List Rat} (h : l.Perm l') : sumR l = sumR l' :=
  h.foldl_eq' (fun x _ y _ z => by rw [Rat.add_assoc, Rat.add_comm x, ← Rat.add_assoc]) 0

theorem sumR_map_add {α : Type} (l : List α) (f g : α → Rat) :
    sumR (l.map (fun a => f a + g a)) = sumR (l.map f) + sumR (l.map g) := by
  induction l with
  | nil => exact (Rat.add_zero 0).symm
  | cons a t ih => simp only [List.map_cons, sumR_cons, ih]; grind

theorem sumR_map_sub {α : Type} (l : List α) (f g : α → Rat) :
    sumR (l.map (fun a => f a - g a)) = sumR (l.map f) - sumR (l.map g) := by
  induction l with
  | nil => exact (Rat.sub_self).symm
  | cons a t ih => simp only [List.map_cons, sumR_cons, ih]; grind

theorem sumR_map_mul_left {α : Type} (l : List α) (c : Rat) (f : α → Rat) :
    sumR (l.map (fun a => c * f a)) = c * sumR (l.map f) := by
  induction l with
  | nil => exact (Rat.mul_zero c).symm
  | cons a t ih => simp only [List.map_cons, sumR_cons, ih, Rat.mul_add]

theorem sumR_map_const {α : Type} (l : List α) (c : Rat) :
    sumR (l.map (fun _ => c)) = (l.length : Nat) * c := by
  induction l with
  | nil => exact (Rat.zero_mul c).symm
  | cons a t ih =>
    simp only [List.map_cons, sumR_cons, ih, List.length_cons, Rat.natCast_add, Rat.add_mul, Rat.add_comm c]
    simp

theorem sumR_comm {α β : Type} (l : List α) (m : List β) (f : α → β → Rat) :
    sumR (l.map (fun a => sumR (m.map (fun b => f a b)))) = sumR (m.map (fun b => sumR (l.map (fun a => f a b)))) := by
  induction l with
  | nil => simp [sumR_map_const]
  | cons a t ih => simp only [List.map_cons, sumR_cons, ih, sumR_map_add]

theorem foldl_eq_sumR {α : Type} (l : List α) (g : α → Rat) :
    l.foldl (fun (acc : Rat) r => acc + g r) 0 = sumR (l.map g) := by
  rw [sumR, List.foldl_map]

theorem natSum_cast (l : List Nat) : ((l.foldl (· + ·) 0 : Nat) : Rat) = sumR (l.map (fun n => ((n : Nat) : Rat))) := by
  rw [← List.sum_eq_foldl_nat]
  induction l with
  | nil => rfl
  | cons a t ih => rw [List.sum_cons, Rat.natCast_add, ih, List.map_cons, sumR_cons]

/-- Counting commutes with a re-encoding that respects the predicate: the one fact behind the
    invariance of ranks, of tie sizes and of contingency counts. -/
theorem length_filter_map {α β : Type} {f : α → β} {p : β → Bool} {q : α → Bool} (l : List α)
    (h : ∀ x ∈ l, p (f x) = q x) : ((l.map f).filter p).length = (l.filter q).length := by
  rw [List.filter_map, List.length_map]
  exact congrArg _ (List.filter_congr h)

theorem beq_map_inj {α β : Type} [DecidableEq α] [DecidableEq β] {f : α → β} (hf : ∀ a b, f a = f b → a = b)
    (a b : α) : (f a == f b) = (a == b) := by
  rw [Bool.eq_iff_iff, beq_iff_eq, beq_iff_eq]; exact ⟨hf a b, congrArg f⟩

theorem length_filter_eq_sum {α : Type} (l : List α) (p : α → Bool) :
    ((l.filter p).length : Rat) = sumR (l.map (fun x => if p x then 1 else 0)) := by
  induction l with
  | nil => rfl
  | cons a t ih =>
    rw [List.map_cons, sumR_cons, ← ih, List.filter_cons]
    split
    · rw [List.length_cons, Rat.natCast_add, Rat.add_comm]; rfl
    · exact (Rat.zero_add _).symm

def cntLt (all : List Rat) (v : Rat) : Nat := (all.filter (fun x => decide (x < v))).length
def cntGt (all : List Rat) (v : Rat) : Nat := (all.filter (fun x => decide (v < x))).length

theorem cnt_partition (all : List Rat) (v : Rat) :
    cntLt all v + (all.filter (fun x => x == v)).length + cntGt all v = all.length := by
  simp only [cntLt, cntGt, ← List.countP_eq_length_filter]
  induction all with
  | nil => rfl
  | cons a t ih =>
    have : (if a < v then 1 else 0) + (if a = v then 1 else 0) + (if v < a then 1 else 0) = 1 := by
      by_cases h1 : a < v
      · simp [h1, Rat.ne_of_lt h1, Rat.not_lt.2 (Rat.le_of_lt h1)]
      · by_cases h2 : a = v
        · simp [h2]
        · simp [h1, h2, Rat.lt_of_le_of_ne (Rat.not_lt.1 h1) (Ne.symm h2)]
    simp only [List.countP_cons, List.length_cons, decide_eq_true_eq, beq_iff_eq]
    omega

/-- **The average rank is the middle rank plus half the excess of smaller over larger values**:
    negation swaps the two counts, and over the whole sample they cancel. -/
theorem avgRank_eq (all : List Rat) (v : Rat) :
    avgRank all v = (((all.length : Nat) : Rat) + 1 + ((cntLt all v : Nat) - (cntGt all v : Nat))) / 2 := by
  rw [← cnt_partition all v]
  simp only [avgRank, cntLt, Rat.natCast_add]
  grind

/-- **Negation reflects average ranks**: rank ↦ n + 1 − rank. -/
theorem avgRank_neg (all : List Rat) (v : Rat) :
    avgRank (all.map (fun x => -x)) (-v) = (all.length : Nat) + 1 - avgRank all v := by
  have hl : cntLt (all.map (fun x => -x)) (-v) = cntGt all v :=
    length_filter_map all fun _ _ => decide_eq_decide.2 Rat.neg_lt_neg_iff
  have hg : cntGt (all.map (fun x => -x)) (-v) = cntLt all v :=
    length_filter_map all fun _ _ => decide_eq_decide.2 Rat.neg_lt_neg_iff
  rw [avgRank_eq, avgRank_eq, hl, hg, List.length_map]
  grind

theorem sum_avgRank (all : List Rat) :
    sumR (all.map (avgRank all)) = (all.length : Nat) * ((all.length : Nat) + 1) / 2 := by
  -- a pair of distinct values is counted once as "smaller" and once as "larger"
  have hsym : sumR (all.map (fun v => ((cntLt all v : Nat) : Rat))) =
      sumR (all.map (fun v => ((cntGt all v : Nat) : Rat))) := by
    simp only [cntLt, cntGt, length_filter_eq_sum]
    exact sumR_comm all all (fun v x => if decide (x < v) then (1 : Rat) else 0)
  have : all.map (avgRank all) = all.map (fun v => 1 / 2 *
      (((all.length : Nat) : Rat) + 1 + (((cntLt all v : Nat) : Rat) + -1 * ((cntGt all v : Nat) : Rat)))) :=
    List.map_congr_left fun v _ => by rw [avgRank_eq]; grind
  rw [this, sumR_map_mul_left, sumR_map_add, sumR_map_const, sumR_map_add, sumR_map_mul_left, hsym]
  grind

/-- **H sees the rows only through their sizes and `Σ rk²/n`**, the latter only when no row is
    empty. -/
theorem kruskalH_of_sizes_sumSq {rows rows' : List Row} (tie : Rat) (hn : rows.map (·.n) = rows'.map (·.n))
    (hs : (∀ r ∈ rows, r.n ≠ 0) → sumR (rows.map (fun r => r.rk * r.rk / ((r.n : Nat) : Rat))) =
      sumR (rows'.map (fun r => r.rk * r.rk / ((r.n : Nat) : Rat)))) :
    kruskalH rows tie = kruskalH rows' tie := by
  have hany : rows'.any (fun r => r.n == 0) = rows.any (fun r => r.n == 0) := by
    have h := congrArg (List.any · (· == 0)) hn
    simp only [List.any_map] at h
    exact h.symm
  unfold kruskalH
  rw [foldl_eq_sumR, foldl_eq_sumR, ← hn, hany]
  by_cases hz : rows.any (fun r => r.n == 0) = true
  · simp only [hz, Bool.true_or, if_true]
  · rw [hs fun r hr h0 => hz (List.any_eq_true.2 ⟨r, hr, beq_iff_eq.2 h0⟩)]

/-- rank ↦ n(N+1) − rank for a whole group -/
def reflect (N : Rat) (r : Row) : Row := { r with rk := ((r.n : Nat) : Rat) * (N + 1) - r.rk }

/-- **H is unchanged when every rank is reflected** (`rank ↦ N + 1 − rank`, `N` = number of
    observations), provided the rank sums add up to N(N+1)/2, as average ranks do. -/
theorem kruskalH_reflect (rows : List Row) (tie : Rat)
    (hsum : sumR (rows.map (·.rk)) =
      (((rows.map (·.n)).foldl (· + ·) 0 : Nat) : Rat) * ((((rows.map (·.n)).foldl (· + ·) 0 : Nat) : Rat) + 1) / 2) :
    kruskalH (rows.map (reflect (((rows.map (·.n)).foldl (· + ·) 0 : Nat) : Rat))) tie = kruskalH rows tie := by
  have hN : sumR (rows.map (fun r => ((r.n : Nat) : Rat))) = (((rows.map (·.n)).foldl (· + ·) 0 : Nat) : Rat) := by
    rw [natSum_cast, List.map_map]; rfl
  generalize (((rows.map (·.n)).foldl (· + ·) 0 : Nat) : Rat) = N at hsum hN ⊢
  symm
  refine kruskalH_of_sizes_sumSq tie (by rw [List.map_map]; rfl) fun hnz => ?_
  -- Σ (n(N+1) − R)²/n = (N+1)²·Σn − 2(N+1)·ΣR + Σ R²/n, and the first two terms cancel
  have : (rows.map (reflect N)).map (fun r => r.rk * r.rk / ((r.n : Nat) : Rat)) = rows.map (fun r =>
      (N + 1) * (N + 1) * ((r.n : Nat) : Rat) + (-(2 * (N + 1)) * r.rk + r.rk * r.rk / ((r.n : Nat) : Rat))) := by
    rw [List.map_map]
    refine List.map_congr_left fun r hr => ?_
    have : ((r.n : Nat) : Rat) ≠ 0 := fun h => hnz r hr (Rat.natCast_eq_zero_iff.1 h)
    simp only [Function.comp, reflect]
    grind
  rw [this, sumR_map_add, sumR_map_add, sumR_map_mul_left, sumR_map_mul_left, hN, hsum]
  grind

theorem eraseDups_loop_map {f : Rat → Rat} (hf : ∀ a b, f a = f b → a = b) (l bs : List Rat) :
    List.eraseDupsBy.loop (· == ·) (l.map f) (bs.map f) = (List.eraseDupsBy.loop (· == ·) l bs).map f := by
  induction l generalizing bs with
  | nil => exact List.map_reverse.symm
  | cons a l ih =>
    have : (bs.map f).any (f a == ·) = bs.any (a == ·) := by
      rw [List.any_map]; exact congrArg _ (funext (beq_map_inj hf a))
    simp only [List.map_cons, List.eraseDupsBy.loop, this]
    split
    · exact ih bs
    · exact ih (a :: bs)

/-- the tie correction only depends on the sizes of the groups of equal values -/
theorem tieCorrection_map_inj (f : Rat → Rat) (hf : ∀ a b, f a = f b → a = b) (all : List Rat) :
    tieCorrection (all.map f) = tieCorrection all := by
  have hd : (all.map f).eraseDups = all.eraseDups.map f := eraseDups_loop_map hf all []
  have hc (v : Rat) : ((all.map f).filter (· == f v)).length = (all.filter (· == v)).length :=
    length_filter_map all fun x _ => beq_map_inj hf x v
  simp only [tieCorrection, List.length_map, hd, List.foldl_map, hc]

/-- the rows of `kruskalOfGroups`, for given ranks -/
def rowsOf (rank : Rat → Rat) (groups : List (List Rat)) : List Row :=
  groups.map (fun g => { n := g.length, s := 0, rk := sumR (g.map rank), poison := false })

/-- **H of a re-encoded variable**, for an injective re-encoding: the same sizes and tie
    correction, with the ranks that the re-encoded values get. -/
theorem kruskalOfGroups_map (f : Rat → Rat) (hf : ∀ a b, f a = f b → a = b) (groups : List (List Rat)) :
    kruskalOfGroups (groups.map (fun g => g.map f)) =
      kruskalH (rowsOf (fun v => avgRank (groups.flatten.map f) (f v)) groups) (tieCorrection groups.flatten) := by
  simp only [kruskalOfGroups, rowsOf, ← List.map_flatten, tieCorrection_map_inj f hf, List.map_map,
    Function.comp_def, List.length_map]

theorem natSum_rowsOf (rank : Rat → Rat) (groups : List (List Rat)) :
    ((rowsOf rank groups).map (·.n)).foldl (· + ·) 0 = groups.flatten.length := by
  rw [rowsOf, List.map_map, ← List.sum_eq_foldl_nat, List.length_flatten]; rfl

theorem rkSum_rowsOf (rank : Rat → Rat) (groups : List (List Rat)) :
    sumR ((rowsOf rank groups).map (·.rk)) = sumR (groups.flatten.map rank) := by
  rw [List.map_flatten, sumR_flatten, rowsOf, List.map_map, List.map_map]; rfl

theorem rowsOf_reflect (rank : Rat → Rat) (N : Rat) (groups : List (List Rat)) :
    rowsOf (fun v => N + 1 - rank v) groups = (rowsOf rank groups).map (reflect N) := by
  simp only [rowsOf, List.map_map, Function.comp_def, reflect, sumR_map_sub, sumR_map_const]

theorem sum_zip_fst : ∀ (xs ys : List Rat), xs.length = ys.length → sumR ((xs.zip ys).map (·.1)) = sumR xs :=
  fun _ _ h => by rw [List.map_fst_zip (Nat.le_of_eq h)]

theorem sum_zip_snd (xs ys : List Rat) (h : xs.length = ys.length) : sumR ((xs.zip ys).map (·.2)) = sumR ys := by
  rw [List.map_snd_zip (Nat.le_of_eq h.symm)]

theorem covN_comm (xs ys : List Rat) (h : xs.length = ys.length) : covN xs ys = covN ys xs := by
  have hz : (xs.zip ys).map (fun p => p.1 * p.2) = (ys.zip xs).map (fun p => p.1 * p.2) := by
    rw [List.map_zip_eq_zipWith, List.map_zip_eq_zipWith]
    exact List.zipWith_comm_of_comm fun x y => Rat.mul_comm x y
  rw [covN, covN, hz, h, Rat.mul_comm (sumR xs)]

theorem covN_affine_left (a b : Rat) (xs ys : List Rat) (h : xs.length = ys.length) :
    covN (xs.map (fun x => a * x + b)) ys = a * covN xs ys := by
  have h1 : sumR (((xs.map (fun x => a * x + b)).zip ys).map (fun p => p.1 * p.2)) =
      a * sumR ((xs.zip ys).map (fun p => p.1 * p.2)) + b * sumR ys := by
    rw [← sum_zip_snd xs ys h, ← sumR_map_mul_left, ← sumR_map_mul_left, ← sumR_map_add,
      List.zip_map_left, List.map_map]
    exact congrArg sumR (List.map_congr_left fun p _ => by simp only [Function.comp, Prod.map, id]; grind)
  have h2 : sumR (xs.map (fun x => a * x + b)) = a * sumR xs + (xs.length : Nat) * b := by
    rw [sumR_map_add, sumR_map_mul_left, sumR_map_const, List.map_id']
  simp only [covN, List.length_map, h1, h2]
  grind

theorem covN_affine_right (a b : Rat) (xs ys : List Rat) (h : xs.length = ys.length) :
    covN xs (ys.map (fun y => a * y + b)) = a * covN xs ys := by
  rw [covN_comm xs _ (by simpa using h), covN_affine_left a b ys xs h.symm, covN_comm ys xs h.symm]

theorem decide_mul_neg (a c : Rat) (ha : a ≠ 0) :
    decide (a * c < 0) = if a < 0 ∧ c ≠ 0 then !decide (c < 0) else decide (c < 0) := by
  by_cases hneg : a < 0
  · have h1 : 0 < -a * c ↔ 0 < c := Rat.mul_pos_iff_of_pos_left (by grind)
    rw [Rat.neg_mul] at h1
    grind
  · have : 0 < a := by grind
    simp only [hneg, false_and, if_false, Rat.mul_neg_iff_of_pos_left this]

/-- **Pearson's r² is unchanged by any affine re-encoding `x ↦ a·x + b`, `a ≠ 0`**; the sign of r
    flips exactly when `a < 0` (the correlation filter looks at |r|). -/
theorem pearsonSq_affine (a b : Rat) (ha : a ≠ 0) (xs ys : List Rat) (h : xs.length = ys.length) :
    pearsonSq (xs.map (fun x => a * x + b)) ys =
      (pearsonSq xs ys).map (fun p => (p.1, if a < 0 ∧ covN xs ys ≠ 0 then !p.2 else p.2)) := by
  have hv : covN (xs.map (fun x => a * x + b)) (xs.map (fun x => a * x + b)) = a * a * covN xs xs := by
    rw [covN_affine_left a b xs _ (by simp), covN_affine_right a b xs xs rfl, Rat.mul_assoc]
  have h0 : (a * a * covN xs xs == 0) = (covN xs xs == 0) := by
    rw [Bool.eq_iff_iff]; simp only [beq_iff_eq, Rat.mul_eq_zero, ha, false_or]
  simp only [pearsonSq, hv, covN_affine_left a b xs ys h, h0]
  split
  · rfl
  · -- `a * a` cancels in the quotient, and the sign of `a * covN xs ys` is that of `covN xs ys`, flipped for `a < 0`
    simp only [decide_mul_neg _ _ ha]
    grind

theorem zip_map_self {α β : Type} (f : α → β) (l : List α) : l.zip (l.map f) = l.map (fun a => (a, f a)) := by
  simpa using List.zip_map' (f := id) (g := f) (l := l)

/-- **χ² does not depend on the order of the rows of the contingency table** (the order in which
    the categories of the feature are listed): the total, the number of columns and the column
    sums are folds of commutative operations, and the cells are permuted. -/
theorem chi2Table_perm {t t' : List (List Nat)} (h : t.Perm t') : chi2Table t = chi2Table t' := by
  have hN := sumR_perm (h.map (fun r => ((r.foldl (· + ·) 0 : Nat) : Rat)))
  have hnc : (t.map List.length).foldl max 0 = (t'.map List.length).foldl max 0 :=
    (h.map _).foldl_eq' (fun _ _ _ _ _ => Nat.max_right_comm ..) 0
  have hcol (j : Nat) : (t.map (fun r => r.getD j 0)).foldl (· + ·) 0 =
      (t'.map (fun r => r.getD j 0)).foldl (· + ·) 0 :=
    (h.map _).foldl_eq' (fun _ _ _ _ _ => Nat.add_right_comm ..) 0
  unfold chi2Table
  simp only [hN, hnc, hcol, h.length_eq, zip_map_self]
  -- the two sides now differ in the list of cells only: the rows with their sums, each spread over the columns by `f`
  have hcells (f : List Nat × Rat → List (Rat × Rat)) :=
    (h.map fun r => (r, ((r.foldl (· + ·) 0 : Nat) : Rat))).flatMap_right f
  rw [(hcells _).any_eq, sumR_perm ((hcells _).map _)]

theorem contingency_perm_rows (xs ys xs' ys' : List String) (h : (xs.zip ys).Perm (xs'.zip ys'))
    (cats cls : List String) :
    contingency xs ys cats cls = contingency xs' ys' cats cls := by
  simp only [contingency, (h.filter _).length_eq]

theorem contingency_rename (ρ : String → String) (hρ : ∀ a b, ρ a = ρ b → a = b) (xs ys cats cls : List String) :
    contingency (xs.map ρ) ys (cats.map ρ) cls = contingency xs ys cats cls := by
  simp only [contingency, List.map_map, List.zip_map_left]
  refine List.map_congr_left fun a _ => List.map_congr_left fun b _ => ?_
  exact length_filter_map _ fun p _ => congrArg (· && _) (beq_map_inj hρ p.1 a)

end MeasureLemmas
