import ACModel.Proofs.AList
/-
  The association-list dictionary (`Dict`) of `GroupedList`.  `get?` and `set` are `Dict`'s own copies
  of the generic `aget?` and `aset` (Proofs/AList.lean): `get?_eq_aget?` and `set_eq_aset` bring the
  generic lemmas over; `keys` is `akeys` by definition.  `erase` (first match only), `update`,
  `allValues` and the partition predicates are proper to `Dict`.  With distinct keys a `Dict` is a
  finite map: what `set` and `erase` do to the entries is read off the lookups.
-/

namespace Dict

@[simp] theorem keys_nil : keys ([] : Dict) = [] := rfl
@[simp] theorem keys_cons (kv : Val × List Val) (t : Dict) : keys (kv :: t) = kv.1 :: keys t := rfl

theorem keys_append (a b : Dict) : keys (a ++ b) = keys a ++ keys b := List.map_append

theorem keys_map_self (f : Val → List Val) (l : List Val) : keys (l.map fun k => (k, f k)) = l := by
  rw [keys, List.map_map]; exact List.map_id l

theorem mem_of_fst_eq {d : Dict} {x : Val × List Val} {k : Val} (h : x ∈ d) (e : x.1 = k) :
    (k, x.2) ∈ d := by subst e; exact h

theorem mem_keys {d : Dict} {k : Val} : k ∈ keys d ↔ ∃ vs, (k, vs) ∈ d :=
  List.mem_map.trans ⟨fun ⟨_, hx, e⟩ => ⟨_, mem_of_fst_eq hx e⟩, fun ⟨_, h⟩ => ⟨_, h, rfl⟩⟩

theorem mem_keys_of_mem {d : Dict} {kv : Val × List Val} (h : kv ∈ d) : kv.1 ∈ keys d :=
  List.mem_map_of_mem h

theorem get?_cons (kv : Val × List Val) (t : Dict) (k : Val) :
    get? (kv :: t) k = if kv.1 = k then some kv.2 else get? t k := rfl

theorem set_cons (kv : Val × List Val) (t : Dict) (k : Val) (vs : List Val) :
    set (kv :: t) k vs = if kv.1 = k then (kv.1, vs) :: t else kv :: set t k vs := rfl

theorem erase_cons (kv : Val × List Val) (t : Dict) (k : Val) :
    erase (kv :: t) k = if kv.1 = k then t else kv :: erase t k := rfl

theorem get?_eq_aget? (d : Dict) (k : Val) : get? d k = aget? d k := by
  induction d with
  | nil => rfl
  | cons kv t ih => rw [get?_cons, aget?_cons, ih]

theorem set_eq_aset (d : Dict) (k : Val) (vs : List Val) : set d k vs = aset d k vs := by
  induction d with
  | nil => rfl
  | cons kv t ih => rw [set_cons, aset_cons, ih]

theorem get?_map_self (f : Val → List Val) (l : List Val) (k : Val) :
    get? (l.map (fun x => (x, f x))) k = if k ∈ l then some (f k) else none :=
  (get?_eq_aget? _ k).trans (aget?_map_self f l k)

theorem get?_eq_none {d : Dict} {k : Val} : get? d k = none ↔ k ∉ keys d := by
  rw [get?_eq_aget?]; exact aget?_eq_none

theorem mem_of_get? {d : Dict} {k : Val} {vs : List Val} (h : get? d k = some vs) : (k, vs) ∈ d :=
  mem_of_aget? (get?_eq_aget? d k ▸ h)

theorem get?_eq_some {d : Dict} {k : Val} {vs : List Val} (hn : (keys d).Nodup) :
    get? d k = some vs ↔ (k, vs) ∈ d := by
  rw [get?_eq_aget?]; exact aget?_eq_some hn

theorem unique_of_mem {d : Dict} (hn : (keys d).Nodup) {k : Val} {a b : List Val}
    (ha : (k, a) ∈ d) (hb : (k, b) ∈ d) : a = b :=
  Option.some.inj (((get?_eq_some hn).2 ha).symm.trans ((get?_eq_some hn).2 hb))

theorem contains_iff {d : Dict} {k : Val} : contains d k = true ↔ k ∈ keys d := by
  rw [contains, Option.isSome_iff_ne_none, ne_eq, get?_eq_none, Classical.not_not]

theorem get?_set (d : Dict) (k x : Val) (vs : List Val) :
    get? (set d k vs) x = if k = x then some vs else get? d x := by
  rw [set_eq_aset, get?_eq_aget?, get?_eq_aget?]; exact aget?_aset d k x vs

theorem keys_set (d : Dict) (k : Val) (vs : List Val) :
    keys (set d k vs) = if k ∈ keys d then keys d else keys d ++ [k] := by
  rw [set_eq_aset]; exact akeys_aset d k vs

theorem mem_keys_set {d : Dict} {k x : Val} {vs : List Val} :
    x ∈ keys (set d k vs) ↔ x ∈ keys d ∨ x = k := by
  rw [keys_set]
  split
  · exact ⟨Or.inl, fun h => h.elim id (· ▸ ‹_›)⟩
  · rw [List.mem_append, List.mem_singleton]

theorem set_of_not_mem {d : Dict} {k : Val} {vs : List Val} (h : k ∉ keys d) :
    d.set k vs = d ++ [(k, vs)] := by
  rw [set_eq_aset]; exact aset_of_not_mem h vs

theorem nodup_keys_set {d : Dict} {k : Val} {vs : List Val} (hn : (keys d).Nodup) :
    (keys (set d k vs)).Nodup := by
  rw [keys_set]
  split
  · exact hn
  · exact hn.concat ‹_›

theorem mem_set {d : Dict} {k : Val} {vs : List Val} {x : Val × List Val}
    (hn : (keys d).Nodup) :
    x ∈ set d k vs ↔ (x ∈ d ∧ x.1 ≠ k) ∨ x = (k, vs) := by
  obtain ⟨xk, xv⟩ := x
  rw [← get?_eq_some (nodup_keys_set hn), get?_set, ← get?_eq_some hn]
  by_cases e : k = xk
  · simp [e, eq_comm]
  · simp [e, Ne.symm e]

theorem erase_eq_eraseP (d : Dict) (k : Val) : erase d k = d.eraseP (·.1 == k) := by
  induction d with
  | nil => rfl
  | cons kv t ih =>
    rw [erase_cons, ih]
    by_cases h : kv.1 = k <;> simp [h]

theorem keys_erase (d : Dict) (k : Val) : keys (erase d k) = (keys d).erase k := by
  rw [erase_eq_eraseP, keys, keys, List.erase_eq_eraseP', List.eraseP_map]; rfl

theorem nodup_keys_erase {d : Dict} {k : Val} (hn : (keys d).Nodup) :
    (keys (erase d k)).Nodup := by
  rw [keys_erase]; exact hn.erase k

theorem mem_of_mem_erase {d : Dict} {k : Val} {x : Val × List Val} (h : x ∈ erase d k) : x ∈ d :=
  List.mem_of_mem_eraseP (erase_eq_eraseP d k ▸ h)

theorem get?_erase_of_ne (d : Dict) {k x : Val} (h : x ≠ k) : get? (erase d k) x = get? d x := by
  induction d with
  | nil => rfl
  | cons hd t ih =>
    rw [erase_cons]
    split
    · rename_i e; rw [get?_cons, if_neg (fun e' => h (e'.symm.trans e))]
    · rw [get?_cons, get?_cons, ih]

theorem get?_erase {d : Dict} (hn : (keys d).Nodup) (k x : Val) :
    get? (erase d k) x = if k = x then none else get? d x := by
  split
  · rename_i e
    rw [← e, get?_eq_none, keys_erase]
    exact hn.not_mem_erase
  · rename_i e; exact get?_erase_of_ne d (Ne.symm e)

theorem mem_erase {d : Dict} {k : Val} {x : Val × List Val} (hn : (keys d).Nodup) :
    x ∈ erase d k ↔ x ∈ d ∧ x.1 ≠ k := by
  obtain ⟨xk, xv⟩ := x
  rw [← get?_eq_some (nodup_keys_erase hn), get?_erase hn, ← get?_eq_some hn]
  by_cases e : k = xk
  · simp [e]
  · simp [e, Ne.symm e]

theorem erase_set_same (d : Dict) (k : Val) (vs : List Val) : (d.set k vs).erase k = d.erase k := by
  induction d with
  | nil => exact if_pos rfl
  | cons hd t ih =>
    rw [set_cons, erase_cons]
    split
    · exact if_pos ‹_›
    · rw [erase_cons, if_neg ‹_›, ih]

theorem erase_set_comm (d : Dict) {j k : Val} (h : j ≠ k) (vs : List Val) :
    (d.set k vs).erase j = (d.erase j).set k vs := by
  induction d with
  | nil => exact if_neg h.symm
  | cons hd t ih =>
    rw [set_cons, erase_cons]
    split
    · rename_i e
      have e' : ¬ hd.1 = j := fun e' => h (e'.symm.trans e)
      rw [erase_cons, if_neg e', if_neg e', set_cons, if_pos e]
    · split
      · exact if_pos ‹_›
      · rw [erase_cons, if_neg ‹_›, set_cons, if_neg ‹_›, ih]

theorem erase_append_of_not_mem {a : Dict} {k : Val} (h : k ∉ keys a) (b : Dict) :
    (a ++ b).erase k = a ++ b.erase k := by
  rw [erase_eq_eraseP, erase_eq_eraseP, List.eraseP_append_right]
  exact fun x hx e => h (beq_iff_eq.1 e ▸ mem_keys_of_mem hx)

theorem set_append_of_not_mem {a : Dict} {k : Val} (h : k ∉ keys a) (b : Dict) (vs : List Val) :
    (a ++ b).set k vs = a ++ b.set k vs := by
  induction a with
  | nil => rfl
  | cons x t ih =>
    rw [keys_cons, List.mem_cons, not_or] at h
    rw [List.cons_append, set_cons, if_neg (Ne.symm h.1), ih h.2, List.cons_append]

theorem filter_ne_eq_erase {d : Dict} (hn : (keys d).Nodup) (k : Val) :
    d.filter (fun kv => kv.1 ≠ k) = d.erase k := by
  induction d with
  | nil => rfl
  | cons hd t ih =>
    rw [keys_cons, List.nodup_cons] at hn
    by_cases e : hd.1 = k
    · rw [erase_cons, if_pos e, List.filter_cons, if_neg (by simpa using e)]
      exact List.filter_eq_self.2 fun x hx => by
        simpa using fun ex : x.1 = k => hn.1 (e ▸ ex ▸ mem_keys_of_mem hx)
    · rw [erase_cons, if_neg e, List.filter_cons, if_pos (by simpa using e), ih hn.2]

theorem nodup_keys_update {c : Dict} (d : Dict) (hc : (keys c).Nodup) : (keys (c.update d)).Nodup := by
  induction d generalizing c with
  | nil => exact hc
  | cons kv t ih => exact ih (nodup_keys_set hc)

theorem mem_keys_update (c d : Dict) (k : Val) :
    k ∈ keys (c.update d) ↔ k ∈ keys c ∨ k ∈ keys d := by
  induction d generalizing c with
  | nil => simp [update]
  | cons kv t ih =>
    rw [update, List.foldl_cons, ← update, ih, keys_set, keys_cons, List.mem_cons]
    split
    · rename_i h
      exact ⟨Or.imp_right Or.inr, fun h' => h'.elim Or.inl (·.elim (fun e => Or.inl (e ▸ h)) Or.inr)⟩
    · rw [List.mem_append, List.mem_singleton, or_assoc]

theorem get?_update {c d : Dict} (hd : (keys d).Nodup) (k : Val) :
    get? (c.update d) k = (get? d k).or (get? c k) := by
  have := aget?_foldl_aset_pairs d c k hd
  simp only [update, set_eq_aset, get?_eq_aget?]
  rw [this]
  cases aget? d k <;> rfl

theorem mem_update {c d : Dict} (hc : (keys c).Nodup) (hd : (keys d).Nodup) {x : Val × List Val} :
    x ∈ c.update d ↔ (x ∈ c ∧ x.1 ∉ keys d) ∨ x ∈ d := by
  obtain ⟨k, vs⟩ := x
  rw [← get?_eq_some (nodup_keys_update d hc), ← get?_eq_some hc, ← get?_eq_some hd, get?_update hd,
    ← get?_eq_none]
  cases get? d k <;> simp

@[simp] theorem allValues_nil : allValues ([] : Dict) = [] := rfl
@[simp] theorem allValues_cons (kv : Val × List Val) (t : Dict) :
    allValues (kv :: t) = kv.2 ++ allValues t := rfl

theorem mem_allValues {d : Dict} {v : Val} : v ∈ allValues d ↔ ∃ kv ∈ d, v ∈ kv.2 :=
  List.mem_flatMap

theorem allValues_set_of_not_mem {d : Dict} {k : Val} (h : k ∉ keys d) (vs : List Val) :
    allValues (d.set k vs) = allValues d ++ vs := by
  rw [set_of_not_mem h, allValues, List.flatMap_append]
  exact congrArg _ (List.append_nil vs)

/-- Global (order-free) form of "groups are disjoint and duplicate free". -/
def Disjoint (d : Dict) : Prop :=
  (∀ a ∈ d, ∀ b ∈ d, a.1 ≠ b.1 → ∀ v ∈ a.2, v ∉ b.2) ∧ (∀ kv ∈ d, kv.2.Nodup)

theorem nodup_allValues_iff {d : Dict} (hn : (keys d).Nodup) :
    (allValues d).Nodup ↔ Disjoint d := by
  rw [allValues, List.Nodup, List.pairwise_flatMap, and_comm]
  -- the groups are duplicate free on both sides; left to show: "an entry shares no value with a later
  -- one" (`Pairwise`) is "entries with different keys share no value"
  refine and_congr_left fun _ => ⟨fun h a ha b hb => ?_, fun h => ?_⟩
  -- sharing no value is symmetric, so it holds of the pairs in either order; `a.1 ≠ a.1` is absurd
  · exact List.Pairwise.forall_of_forall_of_flip (R := fun a b => a.1 ≠ b.1 → ∀ v ∈ a.2, v ∉ b.2)
      (fun _ _ e => absurd rfl e) (h.imp fun h _ v hv hv' => h v hv v hv' rfl)
      (h.imp fun h _ v hv hv' => h v hv' v hv rfl) ha hb
  · exact (List.pairwise_map.1 hn).imp_of_mem fun ha hb hne x hx y hy e => h _ ha _ hb hne x hx (e ▸ hy)

/-- A partition with leaders: groups pairwise disjoint and duplicate free, each holding its key.
    It speaks of the entries only, not of their order. -/
def Part (d : Dict) : Prop := Disjoint d ∧ ∀ kv ∈ d, kv.1 ∈ kv.2

theorem Part.mono {c c' : Dict} (h : Part c) (hs : ∀ x ∈ c', x ∈ c) : Part c' :=
  ⟨⟨fun a ha b hb => h.1.1 a (hs a ha) b (hs b hb), fun x hx => h.1.2 x (hs x hx)⟩,
    fun x hx => h.2 x (hs x hx)⟩

theorem Part.erase {c : Dict} (h : Part c) (k : Val) : Part (c.erase k) :=
  h.mono fun _ => mem_of_mem_erase

theorem Part.update {c d : Dict} (hnc : (keys c).Nodup) (hnd : (keys d).Nodup) (hc : Part c)
    (hd : Part d) (hcd : ∀ x ∈ c, x.1 ∉ keys d → ∀ v ∈ x.2, v ∉ allValues d) :
    Part (c.update d) := by
  have hm := fun {x} => (mem_update hnc hnd (x := x)).1
  refine ⟨⟨fun a ha b hb hab v hva hvb => ?_, fun x hx => ?_⟩, fun x hx => ?_⟩
  · rcases hm ha with ⟨ha, ha'⟩ | ha <;> rcases hm hb with ⟨hb, hb'⟩ | hb
    · exact hc.1.1 a ha b hb hab v hva hvb
    · exact hcd a ha ha' v hva (mem_allValues.2 ⟨b, hb, hvb⟩)
    · exact hcd b hb hb' v hvb (mem_allValues.2 ⟨a, ha, hva⟩)
    · exact hd.1.1 a ha b hb hab v hva hvb
  · exact (hm hx).elim (fun h => hc.1.2 x h.1) (hd.1.2 x)
  · exact (hm hx).elim (fun h => hc.2 x h.1) (hd.2 x)

theorem Part.set {c : Dict} (hnc : (keys c).Nodup) (hc : Part c) {k : Val} {vs : List Val}
    (hvs : vs.Nodup) (hk : k ∈ vs) (hd : ∀ x ∈ c, x.1 ≠ k → ∀ v ∈ x.2, v ∉ vs) :
    Part (c.set k vs) := by
  have h1 : ∀ {x : Val × List Val}, x ∈ [(k, vs)] → x = (k, vs) := List.mem_singleton.1
  have hn1 : (keys [(k, vs)]).Nodup := List.nodup_cons.2 ⟨List.not_mem_nil, List.nodup_nil⟩
  have hp1 : Part [(k, vs)] := by
    refine ⟨⟨fun a ha b hb hab => ?_, fun x hx => ?_⟩, fun x hx => ?_⟩
    · exact absurd (h1 ha ▸ h1 hb ▸ rfl) hab
    · exact h1 hx ▸ hvs
    · exact h1 hx ▸ hk
  -- `c.set k vs` is `c.update [(k, vs)]` by definition
  refine Part.update (d := [(k, vs)]) hnc hn1 hc hp1 fun x hx hxk v hv hv' => ?_
  -- an entry of `c` under another key than `k` shares no value with `vs` (`hd`)
  obtain ⟨y, hy, hv'⟩ := mem_allValues.1 hv'
  exact hd x hx (fun e => hxk (e ▸ List.mem_singleton_self k)) v hv (h1 hy ▸ hv' : v ∈ (k, vs).2)

end Dict
